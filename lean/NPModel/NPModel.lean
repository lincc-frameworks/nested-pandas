import NPModel.Basic
import NPModel.Arrow.Phys
import NPModel.Arrow.Kernels
import NPModel.Spec.Col
import NPModel.Impl.ExtArray
import NPModel.Impl.Accessor
import NPModel.Impl.Dtype
import NPModel.Pandas.Expr
import NPModel.Impl.Frame
import NPModel.Impl.IO
import NPModel.Impl.Names
import NPModel.Spec.Ops
import NPModel.Spec.Frame
import NPModel.State.Aliases
import NPModel.State.Heap
import NPModel.State.Kinds
import NPModel.Driver.Codec
import NPModel.Driver.Ops
import NPModel.Driver.FrameOps
import NPModel.Refine.Segs
import NPModel.Refine.Masks
import NPModel.Refine.Struct
import NPModel.Refine.SimpSets
import NPModel.Refine.ExceptLemmas
import NPModel.Refine.Validate
import NPModel.Refine.Select
import NPModel.Refine.Aligned
import NPModel.Refine.LabelOrder
import NPModel.Refine.SortOrder
import NPModel.Refine.CellOrder
import NPModel.Refine.Views
import NPModel.Refine.Observers
import NPModel.Refine.IfElse
import NPModel.Refine.SetItem
import NPModel.Refine.Take
import NPModel.Refine.CleanTake
import NPModel.Refine.Fields
import NPModel.Refine.FrameLemmas
import NPModel.Refine.Runs
import NPModel.Refine.PackFlat
import NPModel.Refine.PackSorted
import NPModel.Refine.Repacked
import NPModel.Refine.JoinRows
import NPModel.Refine.SoundFrames
import NPModel.Refine.CleanFilter
import NPModel.Refine.FieldRows
import NPModel.Refine.CleanFields
import NPModel.Refine.DtypeParse
import NPModel.Refine.FieldSubsets
import NPModel.Refine.FrameRows
import NPModel.Refine.NamesParse
import NPModel.Refine.Positions
import NPModel.Refine.QueryRows
import NPModel.Refine.Samples
import NPModel.Refine.SamplesFrame
import NPModel.Refine.SortNested
import NPModel.Refine.StateLemmas
import NPModel.Refine.ViewTrips
import NPModel.Props.C01
import NPModel.Props.C02
import NPModel.Props.C03
import NPModel.Props.C04
import NPModel.Props.C05
import NPModel.Props.C06
import NPModel.Props.C07
import NPModel.Props.C08
import NPModel.Props.C09
import NPModel.Props.C10
import NPModel.Props.C11
import NPModel.Props.C12
import NPModel.Props.C13
import NPModel.Props.C14
import NPModel.Props.C15
import NPModel.Props.C16
import NPModel.Props.C17
import NPModel.Props.C18
import NPModel.Props.C19
import NPModel.Findings
