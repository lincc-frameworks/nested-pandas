/-
  NPModel.Basic — value universe, errors, small list utilities shared by every layer.
  Core Lean only (no Mathlib): this file is imported by the executable driver.
-/
namespace NP

/-- Python exception classes the correspondence distinguishes. -/
inductive PyErr where
  | valueError | typeError | indexError | keyError | arrowInvalid | attributeError
  | notImplemented | other
  deriving DecidableEq, Repr, Inhabited

def PyErr.name : PyErr → String
  | .valueError => "ValueError" | .typeError => "TypeError" | .indexError => "IndexError"
  | .keyError => "KeyError" | .arrowInvalid => "ArrowInvalid" | .attributeError => "AttributeError"
  | .notImplemented => "NotImplementedError" | .other => "Other"

abbrev R := Except PyErr

deriving instance DecidableEq for Except

/-- Inner values. Floats generated by the harness are half-integers and travel as `2·x`. -/
inductive Val where
  | int (i : Int) | flt (twice : Int) | nan | str (s : String) | bool (b : Bool) | ts (ns : Int)
  deriving DecidableEq, Repr, Inhabited

/-- `none` = inner null. -/
abbrev Cell := Option Val

/-- Index labels: ints or strings, no NaN (domain of the property list). -/
inductive Label where
  | int (i : Int) | str (s : String)
  deriving DecidableEq, Repr, Inhabited

/-- Labels of one kind in pandas' order. `int < str` only completes the order: pandas refuses to sort
    an index that mixes the kinds. -/
def Label.le : Label → Label → Bool
  | .int a, .int b => decide (a ≤ b)
  | .str a, .str b => decide (a ≤ b)
  | .int _, .str _ => true
  | .str _, .int _ => false

/-- `np.diff`. -/
def diffs : List Nat → List Nat
  | a :: b :: rest => (b - a) :: diffs (b :: rest)
  | _ => []

/-- `np.cumsum` prefixed with the start value: `offsetsFrom b [l₀,l₁,…] = [b, b+l₀, b+l₀+l₁, …]`. -/
def offsetsFrom (b : Nat) : List Nat → List Nat
  | [] => [b]
  | l :: ls => b :: offsetsFrom (b + l) ls

/-- `np.repeat(xs, counts)`. -/
def repeatEach {β : Type} : List β → List Nat → List β
  | x :: xs, c :: cs => List.replicate c x ++ repeatEach xs cs
  | _, _ => []

def sumNat (l : List Nat) : Nat := l.foldr (· + ·) 0

/-- positions (`np.nonzero`) of `true`. -/
def nonzeroFrom (k : Nat) : List Bool → List Nat
  | [] => []
  | b :: bs => if b then k :: nonzeroFrom (k+1) bs else nonzeroFrom (k+1) bs

end NP
