/-
  C03 — Element, flat, list and summary views describe the same data.
-/
import NPModel.Refine.Samples
import NPModel.Refine.ViewTrips
namespace NP.C03
open NP
variable {α : Type}

/-- Per-row lengths are the differences of the list offsets: the number of elements the element
    view shows in row `i` of a field equals `offsets[i+1] - offsets[i]` — for any window into any
    buffer, provided null lists have empty extents. -/
theorem row_length_is_offset_difference (l : PList α) (hw : l.WF = true) (hne : l.nullEmpty = true) (i : Nat)
    (hi : i < l.valid.length) :
    ((l.rows.getD i none).getD []).length = (diffs l.offs).getD i 0 :=
  (PList.lens_eq_diffs hw hne ▸ (getD_map len0 l.rows i none).symm :)

/-- The flat view is the concatenation of the rows of the element view, null lists contributing
    nothing (this is the definition of `ListArray.flatten` the model uses; stated for reference). -/
theorem flat_view_is_concatenation_of_rows (l : PList α) :
    l.flatten = (l.rows.map fun r => r.getD []).flatten := rfl

theorem flat_length_is_sum_of_row_lengths (l : PList α) :
    l.flatten.length = sumNat (l.rows.map fun r => (r.getD []).length) := by
  rw [flat_view_is_concatenation_of_rows, length_flatten_sumNat, List.map_map]
  rfl

/-- For a list array without null lists the flat view is the window of the child buffer the
    offsets point to (zero copy) — the reason `to_flat` of a sliced column shows exactly the
    slice's records. -/
theorem flat_view_is_window (l : PList α) (hw : l.WF = true) (hv : ∀ v ∈ l.valid, v = true) :
    l.flatten = (l.vals.drop (l.offs.headD 0)).take (l.offs.getLast?.getD 0 - l.offs.headD 0) := by
  have ⟨h1, hm, hl⟩ := PList.WF_iff.mp hw
  rw [PList.flatten_allValid hv h1, segs_flatten hm hl]

/-- A missing row reads as missing in the element view exactly when the struct validity says so,
    and an empty row (valid struct, empty lists) is not missing. -/
theorem missing_iff_invalid (s : PStruct α) (i : Nat) :
    (s.rowAt i).isNone = !(s.valid.getD i false) := by
  unfold PStruct.rowAt
  cases s.valid.getD i false <;> simp

/-- **Summary quantities agree with the element view** (chunk level, any offsets/buffers):
    `list_lengths` = `diff(list_offsets)` = the lengths of the rows the element view shows —
    missing rows count zero, empty rows count zero and are not missing.  Hypotheses: what validated
    storage satisfies, and no hidden child lists (finding K1 is exactly their failure). -/
theorem lengths_agree_with_element_view (s : PStruct α) (hw : s.WF = true) (hne : s.nullEmpty = true)
    (hh : s.noHidden) (k0 : PField α) (ks : List (PField α)) (hk : s.kids = k0 :: ks) :
    diffs (rebased k0.list.offs) = s.rows.map Row.len :=
  chunk_lengths_are_row_lens hw hne hh hk

/-- **The flat view agrees with the element view**: `field(f).flatten()` is the concatenation,
    row by row, of field `f` of the tables the element view shows; a missing row contributes no
    flat record. -/
theorem flat_view_agrees_with_element_view (s : PStruct α) (hw : s.WF = true) (hh : s.noHidden)
    (f : String) (k : PField α) (hk : s.kid? f = some k) :
    k.list.flatten = Spec.flatField s.rows f :=
  chunk_flat_is_concat_of_rows hw hh hk

/-- **The list-struct view exists for validated storage** (so `list_lengths`, `flat_length`,
    `get_list_index` do not raise), with the re-based offsets of the first field — fields may be
    slices of different buffers. -/
theorem list_struct_view_exists (s : PStruct α) (hw : s.WF = true) (hne : s.nullEmpty = true) (ha : s.aligned)
    (k0 : PField α) (ks : List (PField α)) (hk : s.kids = k0 :: ks) :
    ∃ l, transposeSL s false = .ok l ∧ l.offs = rebased k0.list.offs :=
  ⟨_, transposeSL_ok s hw hne ha k0 ks hk, rfl⟩

/-- non-vacuity: a sliced list array with a null list -/
example : Samples.la.WF = true ∧ Samples.la.nullEmpty = true ∧
    (Samples.la.rows.map fun r => (r.getD []).length) = diffs Samples.la.offs := by decide +kernel

/-- **Every view is a function of the same rows — column level.**  On validated storage whose
    missing rows store nothing (`PCol.Clean`: well formed, null ⇒ empty extent, accepted by the
    validator, no hidden child lists, at least one field) — any number of chunks, any slice
    offsets and buffers — the observers of the implementation model are the corresponding
    functions of `c.rows`, the element view:
    `list_lengths` = the rows' record counts (missing and empty rows count 0), -/
theorem list_lengths_of_rows (c : PCol α) (h : c.Clean) : NArr.listLengths c = .ok (c.rows.map Row.len) :=
  listLengths_refines h

/-- `flat_length` = the total number of records, -/
theorem flat_length_of_rows (c : PCol α) (h : c.Clean) : NArr.flatLength c = .ok (Spec.flatLength c.rows) :=
  flatLength_refines h

/-- `list_offsets` = the cumulative record counts from 0 — on BOTH code paths (one chunk: the
    first field's re-based offsets; several chunks: cumulative sum of the lengths), -/
theorem list_offsets_of_rows (c : PCol α) (h : c.Clean) :
    NArr.listOffsets c = .ok (offsetsFrom 0 (c.rows.map Row.len)) :=
  listOffsets_refines h

/-- `get_list_index` = the row ordinal of every record, -/
theorem list_index_of_rows (c : PCol α) (h : c.Clean) : NArr.getListIndex c = .ok (Spec.listIndex c.rows) :=
  getListIndex_refines h

/-- `get_flat_index` = the row's label once per record, -/
theorem flat_index_of_rows (index : List Label) (c : PCol α) (h : c.Clean) :
    NSeries.getFlatIndex { index := index, col := c } = .ok (Spec.flatIndex index c.rows) :=
  getFlatIndex_refines h

/-- the flat values of a field = the concatenation of the field's lists over the rows, -/
theorem flat_field_of_rows (c : PCol α) (h : c.Clean) (f : String) (hf : c.ty.any (·.1 == f) = true) :
    NArr.flatField c f = .ok (Spec.flatField c.rows f) :=
  flatField_refines c h f hf

/-- and `to_flat()` = the flat table of the rows (index and every column, lengths consistent). -/
theorem to_flat_of_rows (index : List Label) (c : PCol α) (h : c.Clean) (hch : c.chunks ≠ [])
    (hidx : index.length = c.len) :
    NSeries.toFlat { index := index, col := c } none = Spec.toFlat index c.abs none :=
  toFlat_refines index c h hch hidx

/-- non-vacuity: the three-chunk sample column (a sliced chunk with a missing row, an empty chunk,
    a chunk whose fields sit in different buffers) is `Clean` -/
example : Samples.c1.Clean := by decide +kernel

/-- **The flat view of SOME of the fields** (`to_flat(fields=…)`, any non-empty list of known names in any order):
    the same flat index, and under every requested name the concatenation of THAT field's lists with that field's
    declared type — a name never shows another field's values, whatever the stored order of the fields. -/
theorem to_flat_of_named_fields (index : List Label) (c : PCol α) (h : c.Clean) (hidx : index.length = c.len)
    (fs : List String) (hne : fs ≠ []) (hall : ∀ f ∈ fs, c.ty.any (·.1 == f) = true) :
    NSeries.toFlat { index := index, col := c } (some fs) = Spec.toFlat index c.abs (some fs) :=
  toFlat_fields_refines h hidx hne hall

/-- **The list view** (`to_lists()`), series level: on `Clean` storage of any chunking the frame of lists
    has one column per declared field, in declared order and under the field's name, and the i-th list of
    column `f` is the list field `f` has in row i of the element view (no elements for a missing row) —
    exactly one list per row. -/
theorem to_lists_of_rows (s : NSeries α) (h : s.col.Clean) (hne : s.col.chunks ≠ []) :
    ∃ df, s.toLists none = .ok df ∧ df.index = s.index ∧ df.cols.map (·.1) = s.col.ty.map (·.1) ∧
      ∀ col ∈ df.cols, col.2.2.map (fun r => r.getD []) = Spec.fieldLists s.col.rows col.1 ∧
        col.2.2.length = s.col.len :=
  toLists_spec s h hne

end NP.C03
