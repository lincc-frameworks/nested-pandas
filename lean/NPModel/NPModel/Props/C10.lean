/-
  C10 — Row-wise computation sees exactly each row's own data.
-/
import NPModel.Refine.Samples
import NPModel.Refine.FrameRows
import NPModel.Refine.SamplesFrame
namespace NP.C10
open NP
variable {α : Type}

/-- **What `reduce` hands to the user function for a nested field of row `i` is that row's own
    list**: in a chunk, for a non-missing row `i` the element-view table of the row has, under
    field `f`, exactly the list `iter_field_lists(f)` yields at position `i` (a null child list
    reading as no elements) — any offsets, any buffers. -/
theorem iter_field_list_is_rows_own_list (s : PStruct α) (f : String) (k : PField α) (hk : s.kid? f = some k)
    (i : Nat) (t : Table α) (h : s.rowAt i = some t) :
    (t.find? (fun p => p.1 == f)).map (·.2) = some ((k.list.rows.getD i none).getD []) := by
  rw [PStruct.rowAt_eq] at h
  split at h
  · cases h
    simp only [rowOfKids, List.find?_map, Function.comp_def]
    rw [show s.kids.find? (·.name == f) = some k from hk]
    rfl
  · cases h

/-- **Once per row, in row order, every requested column in the requested order**: whatever
    `reduce` builds, call `i` consists of the `i`-th element of every requested iterator, and there
    are as many calls as the shortest iterator allows (`zip`), at most one per row. -/
theorem reduce_calls_shape (F : NFrame α) (cols : List (Option String × String)) (d : α)
    (calls : List (List (RArg α))) (h : F.reduceCalls cols d = .ok calls) :
    calls.length ≤ F.index.length ∧ ∀ call ∈ calls, call.length = cols.length := by
  obtain ⟨_, iters, hall, rfl⟩ := reduceCalls_eq_ok.mp h
  refine ⟨by rw [List.length_map, List.length_range, List.foldl_min]; exact Nat.min_le_left _ _, fun call hc => ?_⟩
  obtain ⟨i, _, rfl⟩ := List.mem_map.mp hc
  rw [List.length_map, hall.length_eq]

theorem reduce_without_columns_refused (F : NFrame α) (d : α) : F.reduceCalls [] d = .error .valueError := rfl

/-- non-vacuity: the sample chunk, field `a`, row 0 (a slice into a larger buffer) -/
example : (Samples.s1.rowAt 0).map (fun t => (t.find? (fun p => p.1 == "a")).map (·.2)) = some (some [1, 2]) ∧
    (Samples.s1.kid? "a").map (fun k => (k.list.rows.getD 0 none).getD []) = some [1, 2] := by decide +kernel

/-- **`reduce`, call by call, through the implementation model**: for any non-empty list of
    requests, each a base column (one value per row) or a field of a cleanly stored nested column
    (`PCol.Clean`; any chunking and offsets), the call log has exactly one call per frame row, in
    row order, and call `i` has one argument per request in request order: the base value of row
    `i`, or the list that field has in row `i` of the element view — never another row's records,
    never a merged or shifted window; a row without records hands over no elements. -/
theorem reduce_hands_each_row_its_own (F : NFrame α) (cols : List (Option String × String)) (d : α)
    (hne : cols ≠ []) (hok : ∀ col ∈ cols, reduceColOK F col) :
    ∃ calls, F.reduceCalls cols d = .ok calls ∧ calls.length = F.index.length ∧
      ∀ i, i < F.index.length → ∀ (j : Nat) (col : Option String × String), cols[j]? = some col →
        ∃ a, (calls.getD i [])[j]? = some a ∧ reduceArg F col i d a :=
  reduceCalls_rows F cols d hne hok

/-- the flat values / per-row lists `iter_field_lists` yields are the field's lists in the element
    view, for every cleanly stored column (any number of chunks) -/
theorem iter_field_lists_of_rows (c : PCol α) (h : c.Clean) (f : String) (hf : c.ty.any (·.1 == f) = true) :
    ∃ ls, NArr.iterFieldLists c f = .ok ls ∧ ls.map (fun r => r.getD []) = Spec.fieldLists c.rows f ∧
      ls.length = c.len :=
  iterFieldLists_refines h hf

/-- non-vacuity of `reduce_hands_each_row_its_own`: the sample frame with the requests
    `reduce(f, "x", "n.a")` (a base column and a field of a two-chunk sliced nested column) -/
example : ∀ col ∈ [((none : Option String), "x"), (some "n", "a")], reduceColOK Samples.qframe col := by
  intro col hcol
  simp only [List.mem_cons, List.not_mem_nil, or_false] at hcol
  rcases hcol with rfl | rfl
  · exact ⟨"int64", [some (.int 1), some (.int 2), some (.int 3)], rfl, rfl⟩
  · exact ⟨Samples.qcol, by decide +kernel⟩

/-- **`count_nested` reports each row's own number of records** (without `by`): on a cleanly stored column in any
    chunking the counts are, row by row, the numbers of records of the element view — 0 for a missing row, 0 for an
    empty row, one count per input row in row order. -/
theorem count_nested_counts_each_rows_records (c : PCol α) (h : c.Clean) (hch : c.chunks ≠ []) :
    NArr.countRecords c = .ok (c.rows.map Row.len) ∧ (c.rows.map Row.len).length = c.len := by
  refine ⟨countRecords_refines h hch, ?_⟩
  rw [List.length_map, PCol.rows_length]

/-- non-vacuity: evaluated on the two-chunk sliced sample column -/
example : NArr.countRecords Samples.qcol = .ok (Samples.qcol.rows.map Row.len) := by decide +kernel

end NP.C10
