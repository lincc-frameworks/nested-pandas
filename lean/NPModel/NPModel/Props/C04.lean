/-
  C04 — Behaviour does not depend on physical layout or construction history.
  Each theorem compares the SAME operation on two columns that read as the same rows (and declare the same
  fields) but may differ in everything physical — number of chunks, offsets, buffers, slices — and is a
  corollary of the operation's refinement theorem: both sides equal one function of the rows.
-/
import NPModel.Refine.Samples
import NPModel.Refine.Positions
import NPModel.Refine.FieldRows
import NPModel.Refine.SortNested
import NPModel.Refine.ViewTrips
namespace NP.C04
open NP
variable {α : Type}

/-- Two chunks that read as the same rows — whatever their offsets, buffers and hidden data —
    give the same rows after any positional selection. -/
theorem take_layout_independent (s₁ s₂ : PStruct α) (idx : List (Option Nat)) (h : s₁.rows = s₂.rows) :
    (s₁.take idx).rows = (s₂.take idx).rows := by
  rw [PStruct.take_rows, PStruct.take_rows, h]

/-- … and after any window. -/
theorem slice_layout_independent (s₁ s₂ : PStruct α) (st n : Nat) (h : s₁.rows = s₂.rows)
    (h₁ : st + n ≤ s₁.len) : (s₁.slice st n).rows = (s₂.slice st n).rows := by
  rw [PStruct.slice_rows_window, PStruct.slice_rows_window, h]

/-- A list array and its canonical re-encoding (what `take`, `filter`, `concat`, pickling and
    parquet produce) read as the same rows. -/
theorem canonical_reencoding_same_rows (l : PList α) : (PList.ofRows l.rows).rows = l.rows :=
  PList.ofRows_rows l.rows

/-- **`__getitem__` cannot tell two layouts of the same rows apart**: for any two well-formed
    columns that read as the same list of rows — whatever their chunking, slice offsets, buffers and
    hidden data — every key gives the same logical result, or fails on both. -/
theorem getitem_layout_independent (c₁ c₂ : PCol α) (h₁ : c₁.WF = true) (h₂ : c₂.WF = true)
    (h : c₁.rows = c₂.rows) (k : Key) :
    (NArr.getItem c₁ k).map absGet = (NArr.getItem c₂ k).map absGet := by
  rw [getItem_refines c₁ h₁ k, getItem_refines c₂ h₂ k, h]

/-- … and neither can `take`. -/
theorem take_column_layout_independent (c₁ c₂ : PCol α) (h₁ : c₁.WF = true) (h₂ : c₂.WF = true)
    (a₁ : c₁.aligned) (a₂ : c₂.aligned) (h : c₁.rows = c₂.rows) (indices : List Int) (fill : Row α) :
    (NArr.take c₁ indices false fill).map PCol.rows = (NArr.take c₂ indices false fill).map PCol.rows := by
  rw [take_refines_nofill c₁ h₁ a₁, take_refines_nofill c₂ h₂ a₂, h]

/-- … nor pickling (combine_chunks). -/
theorem pickle_layout_independent (c₁ c₂ : PCol α) (h₁ : c₁.WF = true) (h₂ : c₂.WF = true) (h : c₁.rows = c₂.rows) :
    (NArr.pickle c₁).rows = (NArr.pickle c₂).rows := by
  unfold NArr.pickle
  rw [PCol.rows_single, PCol.rows_single, PCol.combine_rows c₁ h₁, PCol.combine_rows c₂ h₂, h]

/-- the layout theorems are not about equal storage: a slice and a `take` with the same rows, physically different -/
example : (Samples.s1.slice 2 1).rows = (Samples.s1.take [some 2]).rows ∧
    (Samples.s1.slice 2 1) ≠ (Samples.s1.take [some 2]) := by decide +kernel

/-- the summary observers (`list_lengths`, `flat_length`, `list_offsets`, `get_list_index`) -/
theorem observers_layout_independent (c₁ c₂ : PCol α) (h₁ : c₁.Clean) (h₂ : c₂.Clean) (h : c₁.rows = c₂.rows) :
    NArr.listLengths c₁ = NArr.listLengths c₂ ∧ NArr.flatLength c₁ = NArr.flatLength c₂ ∧
    NArr.listOffsets c₁ = NArr.listOffsets c₂ ∧ NArr.getListIndex c₁ = NArr.getListIndex c₂ := by
  rw [listLengths_refines h₁, listLengths_refines h₂, flatLength_refines h₁, flatLength_refines h₂,
    listOffsets_refines h₁, listOffsets_refines h₂, getListIndex_refines h₁, getListIndex_refines h₂, h]
  exact ⟨rfl, rfl, rfl, rfl⟩

/-- the flat views: the flat index of a series, the flat values of a field, `to_flat()` -/
theorem flat_views_layout_independent (index : List Label) (c₁ c₂ : PCol α) (h₁ : c₁.Clean) (h₂ : c₂.Clean)
    (hr : c₁.rows = c₂.rows) (ht : c₁.ty = c₂.ty) (hc₁ : c₁.chunks ≠ []) (hc₂ : c₂.chunks ≠ [])
    (hi : index.length = c₁.len) (f : String) (hf : c₁.ty.any (·.1 == f) = true) :
    NSeries.getFlatIndex { index := index, col := c₁ } = NSeries.getFlatIndex { index := index, col := c₂ } ∧
    NArr.flatField c₁ f = NArr.flatField c₂ f ∧
    NSeries.toFlat { index := index, col := c₁ } none = NSeries.toFlat { index := index, col := c₂ } none := by
  rw [getFlatIndex_refines h₁, getFlatIndex_refines h₂, flatField_refines c₁ h₁ f hf,
    flatField_refines c₂ h₂ f (ht ▸ hf), toFlat_refines index c₁ h₁ hc₁ hi, toFlat_refines index c₂ h₂ hc₂ (hi.trans (PCol.len_eq_of_rows hr)), hr]
  refine ⟨rfl, rfl, ?_⟩
  unfold PCol.abs
  rw [hr, ht]

/-- `__setitem__`: the rows after the assignment (or the error) are the same -/
theorem setitem_layout_independent (c₁ c₂ : PCol α) (h₁ : c₁.WF = true) (h₂ : c₂.WF = true)
    (a₁ : c₁.aligned) (a₂ : c₂.aligned) (hr : c₁.rows = c₂.rows) (ht : c₁.ty = c₂.ty) (k : Key) (v : SetVal α)
    (hd : k.distinct c₁.len) :
    (NArr.setItem c₁ k v).map PCol.rows = (NArr.setItem c₂ k v).map PCol.rows := by
  rw [setItem_refines c₁ h₁ a₁ k v hd, setItem_refines c₂ h₂ a₂ k v (PCol.len_eq_of_rows hr ▸ hd), hr, ht]

/-- the per-row lists of every field, column-major (what the flat view, `query`, `dropna` and
    `sort_values` start from), depend on the rows and the declared fields only -/
theorem colLists_layout_independent (c₁ c₂ : PCol α) (hr : c₁.rows = c₂.rows) (ht : c₁.ty = c₂.ty) :
    colLists c₁ = colLists c₂ := by
  unfold colLists tyOf
  rw [hr, ht]

/-- **`query` on a nested layer cannot tell two layouts apart**: two frames whose nested column
    `nest` is stored cleanly in ANY two layouts of the same rows get, from the same condition,
    nested columns with the same rows (and both succeed). -/
theorem query_layout_independent (F₁ F₂ : NFrame Cell) (e : Expr) (nest : String) (c₁ c₂ : PCol Cell)
    (hl : e.layers = [some nest])
    (hn₁ : F₁.nestedColumns.contains nest = true) (hn₂ : F₂.nestedColumns.contains nest = true)
    (hc₁ : F₁.nest? nest = .ok c₁) (hc₂ : F₂.nest? nest = .ok c₂) (h₁ : c₁.Clean) (h₂ : c₂.Clean)
    (hch₁ : c₁.chunks ≠ []) (hch₂ : c₂.chunks ≠ []) (hi₁ : F₁.index.length = c₁.len) (hi₂ : F₂.index.length = c₂.len)
    (hr : c₁.rows = c₂.rows) (ht : c₁.ty = c₂.ty) (vals : List Cell)
    (hev : evalAll (ordFlat (colLists c₁) (c₁.rows.map Row.len)).len
      (recordLookup (ordFlat (colLists c₁) (c₁.rows.map Row.len)) nest) e = .ok vals) :
    ∃ col₁ col₂, F₁.query e = .ok (F₁.setCol nest (.nest col₁)) ∧ F₂.query e = .ok (F₂.setCol nest (.nest col₂)) ∧
      col₁.rows = col₂.rows := by
  have hcl := colLists_layout_independent c₁ c₂ hr ht
  obtain ⟨col₁, hq₁, hrows₁, _⟩ := query_nested_rows hl hn₁ hc₁ h₁ hch₁ hi₁ hev
  obtain ⟨col₂, hq₂, hrows₂, _⟩ := query_nested_rows hl hn₂ hc₂ h₂ hch₂ hi₂ (by rw [← hcl, ← hr]; exact hev)
  refine ⟨col₁, col₂, hq₁, hq₂, ?_⟩
  rw [hrows₁, hrows₂, hcl, hr]

/-- **`sort_values` on a nested layer cannot tell two layouts apart**. -/
theorem sort_layout_independent [Inhabited α] (lt : α → α → Bool) (isNull : α → Bool) (F₁ F₂ : NFrame α)
    (nest : String) (c₁ c₂ : PCol α) (hc₁ : F₁.nest? nest = .ok c₁) (hc₂ : F₂.nest? nest = .ok c₂)
    (h₁ : c₁.Clean) (h₂ : c₂.Clean) (hch₁ : c₁.chunks ≠ []) (hch₂ : c₂.chunks ≠ [])
    (hi₁ : F₁.index.length = c₁.len) (hi₂ : F₂.index.length = c₂.len)
    (hr : c₁.rows = c₂.rows) (ht : c₁.ty = c₂.ty) (keys : List (String × Bool))
    (hkeys : ∀ k ∈ keys, c₁.ty.any (·.1 == k.1) = true) (naFirst : Bool)
    (hlt : KeysOrdered lt isNull (sortKeyCols (ordFlat (colLists c₁) (c₁.rows.map Row.len)) keys)) :
    ∃ col₁ col₂, F₁.sortNested lt isNull nest keys naFirst = .ok (F₁.setCol nest (.nest col₁)) ∧
      F₂.sortNested lt isNull nest keys naFirst = .ok (F₂.setCol nest (.nest col₂)) ∧ col₁.rows = col₂.rows := by
  have hcl := colLists_layout_independent c₁ c₂ hr ht
  obtain ⟨b₁, col₁, hs₁, hrows₁, _, _, _, hb₁⟩ := sortNested_rows lt isNull F₁ nest c₁ hc₁ h₁ hch₁ hi₁ keys hkeys naFirst hlt
  obtain ⟨b₂, col₂, hs₂, hrows₂, _, _, _, hb₂⟩ := sortNested_rows lt isNull F₂ nest c₂ hc₂ h₂ hch₂ hi₂ keys
    (fun k hk => ht ▸ hkeys k hk) naFirst (by rw [← hcl, ← hr]; exact hlt)
  refine ⟨col₁, col₂, hs₁, hs₂, ?_⟩
  rw [hrows₁, hrows₂, hb₁, hb₂, hcl, hr]

/-- **`dropna` on a nested layer cannot tell two layouts apart**. -/
theorem dropna_layout_independent (isNull : α → Bool) (F₁ F₂ : NFrame α) (nest : String) (c₁ c₂ : PCol α)
    (hc₁ : F₁.nest? nest = .ok c₁) (hc₂ : F₂.nest? nest = .ok c₂) (h₁ : c₁.Clean) (h₂ : c₂.Clean)
    (hch₁ : c₁.chunks ≠ []) (hch₂ : c₂.chunks ≠ []) (hi₁ : F₁.index.length = c₁.len) (hi₂ : F₂.index.length = c₂.len)
    (hr : c₁.rows = c₂.rows) (ht : c₁.ty = c₂.ty) (how : How) (thresh : Option Nat) (subset : Option (List String))
    (hsub : ∀ fs, subset = some fs → ∀ f ∈ fs, c₁.ty.any (·.1 == f) = true) :
    ∃ col₁ col₂, F₁.dropnaNested isNull nest how thresh subset = .ok (F₁.setCol nest (.nest col₁)) ∧
      F₂.dropnaNested isNull nest how thresh subset = .ok (F₂.setCol nest (.nest col₂)) ∧ col₁.rows = col₂.rows := by
  have hcl := colLists_layout_independent c₁ c₂ hr ht
  obtain ⟨col₁, hd₁, hrows₁, _⟩ := dropnaNested_rows isNull F₁ nest c₁ hc₁ h₁ hch₁ hi₁ how thresh subset hsub
  obtain ⟨col₂, hd₂, hrows₂, _⟩ := dropnaNested_rows isNull F₂ nest c₂ hc₂ h₂ hch₂ hi₂ how thresh subset
    (fun fs hfs f hf => ht ▸ hsub fs hfs f hf)
  refine ⟨col₁, col₂, hd₁, hd₂, ?_⟩
  rw [hrows₁, hrows₂, hcl, hr]

/-- **Field edits cannot tell two layouts apart**: whenever `set_list_field` / `set_flat_field` /
    `fill_field_lists` succeed on two layouts of the same rows (and the same declared fields), the
    edited columns have the same rows and declare the same fields. -/
theorem field_edits_layout_independent {c₁ c₂ c₁' c₂' : PCol α} {f ty : String} {keep : Bool}
    (h₁ : c₁.Clean) (h₂ : c₂.Clean) (hr : c₁.rows = c₂.rows) (ht : c₁.ty = c₂.ty) :
    (∀ (value : PList α), value.rows.length = value.len →
      NArr.setListField c₁ f ty value keep = .ok c₁' → NArr.setListField c₂ f ty value keep = .ok c₂' →
      c₁'.rows = c₂'.rows ∧ c₁'.ty = c₂'.ty) ∧
    (∀ (xs : List α), NArr.setFlatField c₁ f ty (.array xs) keep = .ok c₁' →
      NArr.setFlatField c₂ f ty (.array xs) keep = .ok c₂' → c₁'.rows = c₂'.rows ∧ c₁'.ty = c₂'.ty) ∧
    (∀ (vs : List α), NArr.fillFieldLists c₁ f ty vs keep = .ok c₁' → NArr.fillFieldLists c₂ f ty vs keep = .ok c₂' →
      c₁'.rows = c₂'.rows ∧ c₁'.ty = c₂'.ty) := by
  refine ⟨?_, ?_, ?_⟩
  · intro value hvl e₁ e₂
    have ⟨r₁, t₁⟩ := setListField_rows e₁ hvl
    have ⟨r₂, t₂⟩ := setListField_rows e₂ hvl
    exact ⟨by rw [r₁, r₂, hr], by rw [t₁, t₂, ht]⟩
  · intro xs e₁ e₂
    have ⟨r₁, t₁, _⟩ := setFlatField_rows h₁ e₁
    have ⟨r₂, t₂, _⟩ := setFlatField_rows h₂ e₂
    exact ⟨by rw [r₁, r₂, hr], by rw [t₁, t₂, ht]⟩
  · intro vs e₁ e₂
    have ⟨r₁, t₁⟩ := fillFieldLists_rows h₁ e₁
    have ⟨r₂, t₂⟩ := fillFieldLists_rows h₂ e₂
    exact ⟨by rw [r₁, r₂, hr], by rw [t₁, t₂, ht]⟩

/-- the list view round trip does not see the layout: two series on `Clean` storage with the same declared
    fields and the same rows — in ANY two layouts — give, through `to_lists` then `pack_lists`, the same rows -/
theorem list_view_round_trip_layout_independent (s₁ s₂ : NSeries α) (h₁ : s₁.col.Clean) (h₂ : s₂.col.Clean)
    (hne₁ : s₁.col.chunks ≠ []) (hne₂ : s₂.col.chunks ≠ [])
    (hty : s₁.col.ty = s₂.col.ty) (hrows : s₁.col.rows = s₂.col.rows) :
    ∃ df₁ p₁ df₂ p₂, s₁.toLists none = .ok df₁ ∧ packLists df₁.index df₁.asChunks true = .ok p₁ ∧
      s₂.toLists none = .ok df₂ ∧ packLists df₂.index df₂.asChunks true = .ok p₂ ∧
      p₁.col.rows = p₂.col.rows :=
  listTrip_layout_independent s₁ s₂ h₁ h₂ hne₁ hne₂ hty hrows

end NP.C04
