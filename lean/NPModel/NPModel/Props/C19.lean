/-
  C19 — Arrow interchange is lossless in both orientations.
-/
import NPModel.Refine.Samples
import NPModel.Refine.Views
namespace NP.C19
open NP
variable {α : Type}

/-- Re-basing offsets onto the window of values they point to shows the same per-row extents —
    for every list array: any slice offset, any buffer, any number of rows. -/
theorem rebased_window_same_extents (l : PList α) (hm : monotone l.offs = true)
    (hl : l.offs.getLast?.getD 0 ≤ l.vals.length) :
    segs (rebased l.offs) l.windowVals = segs l.offs l.vals :=
  segs_rebased_window l hm hl

/-- The two orientations hold the same records per row: in the list-of-structs orientation built
    from a validated chunk, every field read through the shared offsets shows exactly the extents
    the field has in the struct-of-lists orientation (fields may be slices of different buffers). -/
theorem list_struct_same_records (s : PStruct α) (l : PLS α) (hw : s.WF = true) (hv : s.validate = .ok ())
    (h : transposeSL s false = .ok l) :
    ∀ k ∈ s.kids, (k.name, k.ty, k.list.windowVals) ∈ l.fields ∧
      segs l.offs k.list.windowVals = segs k.list.offs k.list.vals := by
  cases hk : s.kids with
  | nil => simp [transposeSL, hk, exc] at h
  | cons k0 ks =>
    simp only [transposeSL, hk, Bool.false_eq_true, if_false, exc] at h
    obtain ⟨-, -, rfl⟩ := h
    intro k hkm
    have ⟨_, hm, hl⟩ := PList.WF_iff.mp (PStruct.WF_iff.mp hw k (hk ▸ hkm)).1
    refine ⟨List.mem_map.mpr ⟨k, hkm, rfl⟩, ?_⟩
    rw [PStruct.validate_eq_ok.mp hv k0 (hk ▸ List.mem_cons_self) k (hk ▸ hkm)]
    exact segs_rebased_window k.list hm hl

/-- non-vacuity: a chunk whose fields are slices of different buffers (offsets that do not start at 0
    over value buffers of different lengths: the transposition has to re-base and window them) -/
example : Samples.s1.WF = true ∧ Samples.s1.validate = .ok () ∧ (transposeSL Samples.s1 false).toBool = true := by
  decide +kernel

/-- **Export then import is the identity on rows** (`pa.array(nested)` in the list-of-structs
    orientation, then `NestedExtensionArray(list_struct_array)`): on validated storage both
    transpositions succeed, and — when missing rows store nothing — every present row comes back
    unchanged while every missing row comes back as a row of empty lists (Arrow's list-of-structs
    layout produced by the export has no row validity; `transposeSL … false`). For every chunk:
    any slice offsets, any buffers, any number of fields and rows. -/
theorem export_import_rows (s : PStruct α) (hw : s.WF = true) (hne : s.nullEmpty = true)
    (hv : s.validate = .ok ()) (hh : s.noHidden) (k0 : PField α) (ks : List (PField α)) (hk : s.kids = k0 :: ks) :
    ∃ s', (transposeSL s false >>= transposeLS) = .ok s' ∧
      s'.rows = s.rows.map fun r => some (r.getD (emptyTable s)) :=
  ⟨reimported s k0, transpose_twice_ok s hw hne hv k0 ks hk, roundtrip_rows s hw hne hv hh k0 ks hk⟩

/-- Without the storage invariant (a missing row may keep values in its extents — K1): the round
    trip still succeeds and returns, for every row, what the chunk *stores* there; present rows are
    therefore always unchanged. -/
theorem export_import_present_rows (s : PStruct α) (hw : s.WF = true) (hne : s.nullEmpty = true)
    (hv : s.validate = .ok ()) (k0 : PField α) (ks : List (PField α)) (hk : s.kids = k0 :: ks)
    (i : Nat) (hi : i < s.len) (hp : s.valid.getD i false = true) :
    ∃ s', (transposeSL s false >>= transposeLS) = .ok s' ∧ s'.rowAt i = s.rowAt i := by
  refine ⟨reimported s k0, transpose_twice_ok s hw hne hv k0 ks hk, ?_⟩
  rw [reimported_rowAt s hw hne hv k0 ks hk i hi]
  unfold PStruct.rowAt PStruct.storedAt
  rw [hp]; rfl

/-- non-vacuity: the sliced two-buffer sample with a missing middle row meets every hypothesis -/
example : Samples.s1.WF = true ∧ Samples.s1.nullEmpty = true ∧ Samples.s1.validate = .ok () ∧ Samples.s1.noHidden := by
  refine ⟨by decide +kernel, by decide +kernel, by decide +kernel, ?_⟩
  unfold PStruct.noHidden
  decide +kernel

end NP.C19
