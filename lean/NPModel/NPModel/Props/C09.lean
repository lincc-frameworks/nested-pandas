/-
  C09 — Nesting attaches to each row exactly the records carrying its label.

  `add_nested` = `pack` (stable sort by label + packer) then `DataFrame.join`; `from_flat` keeps
  the first occurrence of every label as the base row and nests all records of the label.
-/
import NPModel.Refine.JoinRows
namespace NP.C09
open NP
variable {α : Type}

/-- **The packed table holds, for every label, exactly the records carrying it, in their original
    relative order** — whatever the order and multiplicity of the labels in the flat table.
    (The left join then looks the row's label up in this packed column.) -/
theorem packed_row_holds_records_of_label (xs : List (Label × α)) (k : Label) (l : List α)
    (hm : (k, l) ∈ toRuns (sortedByLabel xs)) :
    l = valsOfLabel k (xs.map (·.1)) (xs.map (·.2)) :=
  (packFlat_rows xs k l hm).1

/-- Labels of the packed table are pairwise distinct, so the join matches every base row with at
    most one packed row: the default left join cannot multiply, drop or reorder base rows. -/
theorem packed_labels_distinct (xs : List (Label × α)) :
    ((toRuns (sortedByLabel xs)).map (·.1)).Pairwise (· ≠ ·) :=
  List.Pairwise.imp (fun h => h.2) (packFlat_index_strictly_ascending xs)

/-- A label that carries no record has no packed row (and its base row gets a missing value). -/
theorem label_without_records_absent (xs : List (Label × α)) (k : Label)
    (h : k ∉ xs.map (·.1)) : k ∉ (toRuns (sortedByLabel xs)).map (·.1) := by
  intro hk
  exact h (((sortedByLabel_perm xs).map (·.1)).mem_iff.mp (mem_toRuns_keys.mp hk))

/-- The join step of the left join is a `take` with a fill for unmatched rows, which refines to
    "row `i` of the result is the packed row its index points to, missing for `-1`"
    (chunk-level refinement of `take`, any layout). -/
theorem left_join_lookup (packed : PStruct α) (indexer : List (Option Nat)) :
    (packed.take indexer).rows = indexer.map (pickRow packed.rows) :=
  PStruct.take_rows packed indexer

/-- `from_flat`: the base rows are the first occurrences — an element is kept iff no equal label
    occurred before it. -/
theorem first_occurrence_kept (seen : List Label) (l : Label) (ls : List Label) :
    dupFirstGo seen (l :: ls) = seen.contains l :: dupFirstGo (l :: seen) ls := rfl

/-- `valsOfLabel` computed: the values under label `b`, in their original order -/
example : valsOfLabel (Label.str "b") [Label.str "b", Label.str "a", Label.str "b"] [0, 1, 2] = [0, 2] := by decide +kernel

/-- **`pack_flat` end to end** (`NP.packFlat`, the model of `pack_flat` checked against the code):
    for ANY flat table with at least one column — any labels, in any order, repeated or not — the
    call succeeds, the packed index is `packedKeys` (the labels that occur, each once, ascending:
    `packed_keys_are_the_labels`), the packed column is clean validated storage with the table's columns
    as fields, and the row of label `k` is `packedRow df k`: for every field at once, the cells of
    exactly the records that carried `k`, in their original order. -/
theorem pack_flat_end_to_end [Inhabited α] (df : FlatDF α) (hne : df.cols ≠ []) :
    ∃ packed, packFlat df = .ok packed ∧ packed.index = packedKeys df.index ∧
      packed.col.WF = true ∧ packed.col.aligned ∧
      packed.col.ty = df.cols.map (fun c => (c.1, c.2.1)) ∧
      packed.col.rows = (packedKeys df.index).map (packedRow df) ∧
      packed.col.Clean ∧ packed.col.chunks ≠ [] :=
  packFlat_spec df hne

/-- the packed index lists exactly the labels of the flat table, each once, strictly ascending;
    and a label has records iff it occurs -/
theorem packed_keys_are_the_labels (index : List Label) :
    (∀ l, l ∈ packedKeys index ↔ l ∈ index) ∧
    (packedKeys index).Pairwise (fun a b => a.le b = true ∧ a ≠ b) ∧
    (∀ l, recordsOf index l = [] ↔ l ∉ index) :=
  ⟨mem_packedKeys index, packedKeys_strict index, recordsOf_eq_nil_iff index⟩

/-- **`add_nested` (the default left join) end to end** (`NP.NFrame.addNested`): for every
    consistent frame and ANY flat table with at least one column, the call succeeds; the frame
    keeps its index and the content of every column it had (no base row multiplied, dropped or
    reordered); and row `i` of the new nested column is MISSING when no flat record carries the
    label of row `i`, and otherwise holds — for every field at once — the cells of exactly the
    flat records that carry that label, in their original relative order.  Flat records whose
    label is not in the frame appear nowhere. -/
theorem add_nested_left_end_to_end [Inhabited α] (F : NFrame α) (hF : F.Consistent) (flat : FlatDF α)
    (hne : flat.cols ≠ []) (name : String) (na : α) :
    ∃ cols' col, F.addNested flat name .left na =
        .ok (NFrame.setCol { index := F.index, cols := cols' } name (.nest col)) ∧
      All2 (fun p p' => p'.1 = p.1 ∧ ColData.same p.2 p'.2) F.cols cols' ∧
      col.rows = F.index.map fun l => if l ∈ flat.index then packedRow flat l else none :=
  addNested_left_rows F hF flat hne name na

/-- **`add_nested(how="inner")` end to end** (`NP.NFrame.addNested`): the result keeps exactly the
    frame rows whose label carries at least one flat record (`innerKept`), in their original order
    and with the content of every column they had, and every kept row holds the cells of exactly
    the flat records of its label, in original order — none of them is missing. -/
theorem add_nested_inner_end_to_end [Inhabited α] (F : NFrame α) (hF : F.Consistent) (flat : FlatDF α)
    (hne : flat.cols ≠ []) (name : String) (na : α) :
    let kept := innerKept F.index flat.index
    ∃ cols' col, F.addNested flat name .inner na =
        .ok (NFrame.setCol { index := kept.map fun i => F.index.getD i (.int 0), cols := cols' } name (.nest col)) ∧
      All2 (fun p p' => p'.1 = p.1 ∧ ColData.selected kept na p.2 p'.2) F.cols cols' ∧
      col.rows = kept.map fun i => packedRow flat (F.index.getD i (.int 0)) := by
  intro kept
  have hkept : ∀ p ∈ kept, p < F.index.length ∧ F.index.getD p (.int 0) ∈ flat.index := fun p hp =>
    ⟨List.mem_range.mp (List.mem_filter.mp hp).1, of_decide_eq_true (List.mem_filter.mp hp).2⟩
  -- the plan of the join: a row is kept when its label is one of the flat table's
  obtain ⟨cols', col, hok, hall, hcr⟩ := addNested_kept hF hne name .inner na kept (fun p hp => (hkept p hp).1) (by
    simp only [joinPlan, labelPos_nonneg_iff, mem_packedKeys]
    rfl)
  exact ⟨cols', col, hok, hall, hcr.trans (List.map_congr_left fun i hi => if_pos (hkept i hi).2)⟩

/-- **`from_flat` end to end** (`NP.NFrame.fromFlat`): one row per first occurrence of a label,
    the base columns hold the cells of those first occurrences, and EVERY row of the nested
    column is present and holds the cells of exactly the records carrying the row's label, in
    their original order. -/
theorem from_flat_end_to_end [Inhabited α] (index : List Label) (base nested : List (String × String × List α))
    (hb : ∀ c ∈ base, c.2.2.length = index.length) (hne : nested ≠ []) (name : String) (na : α) :
    ∃ cols' col, NFrame.fromFlat index base nested name na =
        .ok (NFrame.setCol { index := firstLabels index, cols := cols' } name (.nest col)) ∧
      All2 (fun p p' => p'.1 = p.1 ∧ ColData.same p.2 p'.2)
        (base.map fun c => (c.1, ColData.base c.2.1 (filterBy ((duplicatedFirst index).map (!·)) c.2.2))) cols' ∧
      col.rows = (firstLabels index).map (packedRow { index := index, cols := nested }) :=
  fromFlat_rows index base nested hb hne name na

/-- non-vacuity: a consistent frame exists (labels `[b, c]`, one base column), and against the flat
    table labelled `[b, a, b]` the row of `b` holds records 0 and 2, the row of `c` is missing -/
example : (⟨[.str "b", .str "c"], [("x", .base "int64" [1, 2])]⟩ : NFrame Nat).Consistent :=
  ⟨by intro n t v h; simp at h; obtain ⟨_, _, rfl⟩ := h; rfl, by intro n c h; simp at h⟩
example : (([Label.str "b", .str "c"]).map fun l =>
      if l ∈ [Label.str "b", .str "a", .str "b"] then
        packedRow (⟨[.str "b", .str "a", .str "b"], [("t", "int64", [10, 11, 12])]⟩ : FlatDF Nat) l else none)
    = [some [("t", [10, 12])], none] := by decide +kernel

end NP.C09
