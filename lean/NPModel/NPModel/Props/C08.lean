/-
  C08 — Parquet files round-trip the frame and stay readable by plain Arrow.
  About the column bookkeeping of `read_parquet` (NPModel.Impl.IO).
  The parquet codec itself is pyarrow's: the theorems hold under the two laws stated in
  NPModel/Impl/IO.lean, which the correspondence exercises on real files.
-/
import NPModel.Impl.IO
namespace NP.C08
open NP NP.IO

/-- **Full read**: every column of the file comes back, in file order; every struct-of-lists
    column is cast to the nested dtype with all its fields in file order, unless rejected. -/
theorem full_read_columns (schema : List (String × FileCol)) (reject : List String) :
    readParquetCols schema none reject = .ok (schema.map fun (n, c) => match c with
      | .base => OutCol.base n
      | .nest fs => if reject.contains n then OutCol.plain n else OutCol.nested n fs) := by
  show Except.ok (finish (fullTable schema) reject) = _
  rw [finish, fullTable, List.map_map]
  exact congrArg _ (List.map_congr_left fun (n, c) _ => by cases c <;> rfl)

/-- whole-column requests never regroup anything -/
theorem scanGo_whole (cols : List Req) (ret : List (String × RetKind)) (h : ∀ c ∈ cols, ∃ n, c = .whole n)
    (i : Nat) (st : List (String × List Nat)) (rj : List String) :
    scanGo (cols.zip ret) i st rj = (st, rj) := by
  induction cols generalizing ret i with
  | nil => simp [scanGo]
  | cons c cols ih =>
    cases ret with
    | nil => simp [scanGo]
    | cons r ret =>
      obtain ⟨n, rfl⟩ := h c List.mem_cons_self
      simp only [List.zip_cons_cons, scanGo]
      exact ih ret (fun c hc => h c (List.mem_cons_of_mem _ hc)) (i + 1)

/-- **Selecting whole columns** (base or nested): exactly the requested columns, in the requested
    order, nested columns with all their fields. -/
theorem whole_column_selection (schema : List (String × FileCol)) (cols : List Req) (ret : List (String × RetKind))
    (h : ∀ c ∈ cols, ∃ n, c = .whole n) (hp : cols.mapM (project1 schema) = some ret) :
    readParquetCols schema (some cols) [] = .ok (finish ret []) := by
  have hz : (ret.zipIdx.filter fun _ => true).map (·.1) = ret := by
    rw [List.filter_eq_self.mpr fun _ _ => rfl]
    exact List.zipIdx_map_fst ..
  simp only [readParquetCols, hp, scanPartial, scanGo_whole cols ret h 0 [] [], List.any_nil, List.flatMap_nil,
    List.contains_nil, Bool.false_eq_true, not_false_eq_true, decide_true, hz, List.map_nil, List.append_nil, pure,
    Except.pure]
  exact if_neg (by simp)

/-- the fields of ONE nest, all returned as list leaves: the scan collects their positions in
    request order under that nest -/
theorem scanGo_one_nest (nest : String) :
    ∀ (fields : List String) (ret : List (String × RetKind)) (i : Nat) (acc : List Nat) (rj : List String),
      rj.contains nest = false → ret.length = fields.length → (∀ r ∈ ret, r.2 = .list) →
      scanGo ((fields.map (Req.leaf nest)).zip ret) i (if acc = [] then [] else [(nest, acc)]) rj
        = (if acc ++ List.range' i fields.length = [] then [] else [(nest, acc ++ List.range' i fields.length)], rj) := by
  intro fields
  induction fields with
  | nil => intro ret i acc rj _ _ _; simp [scanGo]
  | cons f fields ih =>
    intro ret i acc rj hr hl hk
    cases ret with
    | nil => simp at hl
    | cons r ret =>
      obtain ⟨rn, rk⟩ := r
      obtain rfl : rk = .list := hk (rn, rk) List.mem_cons_self
      simp only [List.map_cons, List.zip_cons_cons, scanGo, bne_self_eq_false, Bool.false_eq_true, if_false, hr,
        not_false_eq_true, if_true]
      have hst : dictAppend (if acc = [] then [] else [(nest, acc)]) nest i = [(nest, acc ++ [i])] := by
        by_cases ha : acc = [] <;> simp [ha, dictAppend]
      rw [hst]
      simpa [List.range'_succ, List.append_assoc] using
        ih ret (i + 1) (acc ++ [i]) rj hr (by simpa using hl) fun r hr' => hk r (List.mem_cons_of_mem _ hr')

/-- **Selecting fields of one nested column**: the result is that one nested column with exactly
    the requested fields in the requested order (the leaves `pyarrow` returns, regrouped). -/
theorem fields_of_one_nest (schema : List (String × FileCol)) (nest : String) (fields : List String)
    (ret : List (String × RetKind)) (hne : fields ≠ [])
    (hp : (fields.map (Req.leaf nest)).mapM (project1 schema) = some ret)
    (hl : ret.length = fields.length) (hk : ∀ r ∈ ret, r.2 = .list)
    (hnoclash : ∀ f ∈ fields, (nest == nest ++ "." ++ f) = false) :
    readParquetCols schema (some (fields.map (Req.leaf nest))) []
      = .ok [OutCol.nested nest ((List.range fields.length).filterMap fun i => (ret[i]?).map (·.1))] := by
  have hs := scanGo_one_nest nest fields ret 0 [] [] rfl hl hk
  rw [if_pos rfl, List.nil_append,
    if_neg (mt (fun h => List.length_eq_zero_iff.mp (List.range'_eq_nil_iff.mp h)) hne)] at hs
  have hno : ((fields.map (Req.leaf nest)).any fun c => [(nest, List.range' 0 fields.length)].any (·.1 == c.text)) = false := by
    rw [List.any_map, List.any_eq_false]
    intro f hf
    simpa [Req.text] using hnoclash f hf
  -- every returned column was regrouped: nothing else is kept
  have hkept : (ret.zipIdx.filter fun p => ¬ (List.range' 0 fields.length).contains p.2) = [] := by
    rw [List.filter_eq_nil_iff]
    intro p hp'
    have := List.mem_zipIdx hp'
    simp only [decide_not, Bool.not_eq_true', Bool.not_eq_false, List.contains_eq_mem, List.mem_range'_1, decide_eq_true_eq]
    omega
  simp only [readParquetCols, hp, scanPartial, hs, hno, Bool.false_eq_true, if_false, pure, Except.pure,
    List.flatMap_cons, List.flatMap_nil, List.append_nil, hkept, finish, List.contains_nil, List.map_nil, List.map_cons,
    List.nil_append, List.range_eq_range']

theorem full_and_partial_refused (schema : List (String × FileCol)) (nest field : String) (fs : List String)
    (hs : schema.find? (·.1 == nest) = some (nest, .nest fs)) (hf : fs.contains field = true) :
    readParquetCols schema (some [.whole nest, .leaf nest field]) [] = .error .valueError := by
  have hm : [Req.whole nest, Req.leaf nest field].mapM (project1 schema)
      = some [(nest, RetKind.struct fs), (field, RetKind.list)] := by
    simp only [List.mapM_cons, List.mapM_nil, project1, hs, hf, if_true, pure, bind, Option.bind]
  have hsc : scanGo ([Req.whole nest, Req.leaf nest field].zip [(nest, RetKind.struct fs), (field, RetKind.list)]) 0 [] []
      = ([(nest, [1])], []) := rfl
  simp only [readParquetCols, hm, scanPartial, hsc]
  exact if_pos (by simp [Req.text])

example : readParquetCols [("a", .base), ("n", .nest ["t", "f"])] (some [.leaf "n" "f", .whole "a", .leaf "n" "t"]) []
    = .ok [.base "a", .nested "n" ["f", "t"]] := by decide +kernel

end NP.C08
