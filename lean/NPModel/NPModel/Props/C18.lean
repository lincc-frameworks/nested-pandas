/-
  C18 — Results stay nested: the API is closed under its own operations.
  First about the closure model NPModel.State.Kinds (partial in the sense of DESIGN.md §12: the per-operation
  rules are pandas runtime behaviour, validated by the correspondence; the composition over chains is what is
  proved), then about the storage invariant `NFrame.Sound` of the implementation model.
-/
import NPModel.State.Kinds
import NPModel.Refine.SamplesFrame
import NPModel.Refine.FieldSubsets
namespace NP.C18
open NP.State

/-- **One step**: every operation of the table maps a closed frame to a closed frame. -/
theorem closure_step (F : FKind) (op : KOp) (h : F.Closed) : (F.step op).Closed := by
  obtain ⟨hc, hk⟩ := h
  -- an edit of the fields of a nest leaves every column its kind
  have edit : ∀ (g : List String → List String) (n : String), ∀ c ∈ F.cols.map (fun (c, k) => match k with
      | .nested fs => if c == n then (c, ColKind.nested (g fs)) else (c, k)
      | _ => (c, k)), c.2 ≠ .degraded := by
    intro g n c hcm
    obtain ⟨⟨c0, k⟩, hp, rfl⟩ := List.mem_map.mp hcm
    have := hk _ hp
    cases k with
    | nested fs => simp only; split <;> simp
    | _ => exact this
  -- a column added under a name replaces the old one of that name
  have add : ∀ (name : String) (k : ColKind), k ≠ .degraded →
      ∀ c ∈ F.cols.filter (·.1 != name) ++ [(name, k)], c.2 ≠ .degraded := by
    intro name k hk' c hcm
    rcases List.mem_append.mp hcm with hcm | hcm
    · exact hk c (List.mem_filter.mp hcm).1
    · rw [List.mem_singleton.mp hcm]; exact hk'
  cases op with
  | rowOp => exact ⟨hc, hk⟩
  | addField n f => exact ⟨hc, edit _ n⟩
  | dropField n f => exact ⟨hc, edit _ n⟩
  | addNested name fs => exact ⟨hc, add name _ (by simp)⟩
  | addBase name => exact ⟨hc, add name _ (by simp)⟩
  | selectCols names => exact ⟨hc, fun c hcm => hk c (List.mem_filter.mp hcm).1⟩

/-- **Any depth of chaining**. -/
theorem closure_chain (ops : List KOp) : ∀ F : FKind, F.Closed → (F.run ops).Closed := by
  induction ops with
  | nil => intro F h; exact h
  | cons op rest ih => intro F h; exact ih _ (closure_step F op h)

/-- **The listing matches the content**: a column is listed as nested exactly when its kind is
    nested, and the listed fields are the fields of that kind. -/
theorem listing_matches (F : FKind) (n : String) :
    n ∈ F.nestedColumns ↔ ∃ fs, (n, ColKind.nested fs) ∈ F.cols := by
  unfold FKind.nestedColumns
  rw [List.mem_filterMap]
  constructor
  · rintro ⟨⟨c, k⟩, hm, hk⟩
    cases k with
    | nested fs =>
      cases hk
      exact ⟨fs, hm⟩
    | _ => cases hk
  · rintro ⟨fs, hm⟩
    exact ⟨(n, .nested fs), hm, rfl⟩

/-- a nested column never silently degrades along a chain: what is nested stays nested or is
    removed by an explicit column selection / replaced by name -/
theorem nested_stays_nested_under_row_ops (F : FKind) (k : Nat) : (F.run (List.replicate k .rowOp)) = F := by
  induction k with
  | zero => rfl
  | succ k ih => simpa [List.replicate_succ, FKind.run, FKind.step] using ih

example : FKind.Closed { isNestedFrame := true, cols := [("x", .base), ("n", .nested ["a", "b"])] } :=
  ⟨rfl, by decide⟩

/-! The closure model above is about classes and kinds.  The theorems below are about the
implementation model itself (`NP.NFrame`): `NFrame.Sound` — every base column has one cell per
row, every nested column is clean storage (well formed, validated, nothing hidden under missing
rows, ≥ 1 field, ≥ 1 chunk) with one row per frame row — is an invariant of the operations that
rebuild a nested column, so every theorem that needs clean storage (C03, C06, C07, C10–C13) applies
again to the result, to any depth of chaining. -/

open NP in
/-- **One step**: a successful nested `query`, `dropna` or `sort_values` on a sound frame returns a
    sound frame, which is the old frame with that ONE column replaced (any expression, keys,
    how/thresh/subset — only success is assumed). -/
theorem rebuilding_step_keeps_frames_sound (F : NFrame Cell) (h : F.Sound) (op : NestOp) (F' : NFrame Cell)
    (hok : op.run F = .ok F') : F'.Sound ∧ ∃ col, F' = F.setCol op.target (.nest col) :=
  NestOp.run_sound h hok

open NP in
/-- **Chains of any length**: whatever sequence of nested queries, dropnas and sorts succeeds on a
    sound frame, the result is sound and has the same index — no row of the frame is ever added,
    dropped or moved (by induction over the chain). -/
theorem rebuilding_chains_stay_sound (ops : List NestOp) (F : NFrame Cell) (h : F.Sound) (F' : NFrame Cell)
    (hok : runChain F ops = .ok F') : F'.Sound ∧ F'.index = F.index :=
  chain_invariant (P := fun G => G.Sound ∧ G.index = F.index) (fun _ => rfl)
    (fun G op ops => by rw [runChain]; cases op.run G <;> rfl)
    (fun G op G' hG hr =>
      have ⟨hs, col, he⟩ := NestOp.run_sound (op := op) hG.1 hr
      ⟨hs, by rw [he, NFrame.setCol_index, hG.2]⟩)
    ops F ⟨h, rfl⟩ F' hok

open NP in
/-- the pieces: `take` with a missing fill value (the alignment step of every re-packing and of the
    joins) and the packer return clean storage -/
theorem take_and_packer_return_clean_storage {α : Type} :
    (∀ (c : PCol α), c.Clean → ∀ (indices : List Int) (c' : PCol α), NArr.take c indices true none = .ok c' →
      c'.Clean ∧ c'.len = indices.length ∧ c'.ty = c.ty ∧ c'.chunks ≠ []) ∧
    (∀ (df : FlatDF α) (packed : NSeries α), packSortedDf df = .ok packed →
      packed.col.Clean ∧ packed.col.chunks ≠ [] ∧ packed.index.length = packed.col.len) :=
  ⟨take_none_clean, packSortedDf_clean⟩

open NP in
/-- **Joins keep frames sound, whatever the join kind**: a successful `add_nested` of ANY flat table
    onto a sound frame, with `how` = left / right / inner / outer, returns a sound frame (every old
    column re-gathered into clean storage, the new column clean storage, one row per result row). -/
theorem join_keeps_frames_sound {α : Type} [Inhabited α] (F : NFrame α) (h : F.Sound) (flat : FlatDF α)
    (name : String) (how : JoinHow) (na : α) (F' : NFrame α) (hok : F.addNested flat name how na = .ok F') :
    F'.Sound :=
  addNested_sound F h flat name how na F' hok

open NP in
/-- **Chains mixing nested queries, dropnas, sorts and joins**, of any length: sound to any depth. -/
theorem mixed_chains_stay_sound (ops : List FrameOp) (F : NFrame Cell) (h : F.Sound) (F' : NFrame Cell)
    (hok : runFrameChain F ops = .ok F') : F'.Sound :=
  chain_invariant (fun _ => rfl) (fun G op ops => by rw [runFrameChain]; cases op.run G <;> rfl)
    (fun _ _ _ hG => FrameOp.run_sound hG) ops F h F' hok

open NP in
/-- **Selecting rows with a boolean mask keeps storage clean** (`__getitem__` with a mask — what a
    base-layer query, a boolean filter or `dropna` on the base layer apply to every nested column):
    chunk by chunk, any chunking; the rows are the rows the mask keeps. -/
theorem mask_selection_keeps_storage_clean {α : Type} (c : PCol α) (hc : c.Clean) (hch : c.chunks ≠ []) (m : List Bool)
    (c' : PCol α) (h : NArr.getItem c (.mask m) = .ok (.col c')) :
    c'.Clean ∧ c'.chunks ≠ [] ∧ c'.rows = filterBy m c.rows :=
  getItem_mask_clean c hc hch m c' h

open NP in
/-- **Base-layer queries keep frames sound**, and so do **chains of ALL the operations modelled**
    (nested queries, dropnas, sorts, joins of every kind, base-layer queries), of any length. -/
theorem all_chains_stay_sound (ops : List AnyOp) (F : NFrame Cell) (h : F.Sound) (F' : NFrame Cell)
    (hok : runAnyChain F ops = .ok F') : F'.Sound :=
  runAnyChain_sound ops F h F' hok

open NP in
/-- **Field edits keep storage clean**: `set_flat_field` (behind `with_flat_field`, `.nest[f] = v`,
    `frame['n.f'] = v`, eval assignment) with an array or one value for all records, and
    `fill_field_lists` (one value per row), return clean storage of the same length whenever they
    succeed — the flat values are cut by the rows' record counts, so nothing ends up under a missing
    row; `set_list_field` does so for list arrays without null lists that hold nothing under the
    column's missing rows. -/
theorem field_edits_keep_storage_clean {α : Type} (c : PCol α) (hc : c.Clean) (hch : c.chunks ≠ []) (f ty : String)
    (keep : Bool) (c' : PCol α) :
    (∀ v : FlatVal α, NArr.setFlatField c f ty v keep = .ok c' → c'.Clean ∧ c'.chunks ≠ [] ∧ c'.len = c.len) ∧
    (∀ vs : List α, NArr.fillFieldLists c f ty vs keep = .ok c' → c'.Clean ∧ c'.chunks ≠ [] ∧ c'.len = c.len) ∧
    (∀ value : PList α, value.WF = true → (∀ v ∈ value.valid, v = true) → HiddenFree value c.rows 0 →
      NArr.setListField c f ty value keep = .ok c' → c'.Clean ∧ c'.chunks ≠ [] ∧ c'.len = c.len) :=
  ⟨fun _ h => setFlatField_clean' hc hch h, fun _ h => fillFieldLists_clean hc hch h,
   fun value hw hv hh h => setListField_clean c hc hch f ty value keep c' hw hv hh h⟩

open NP in
/-- **Chains of EVERY frame operation of the model** — nested and base-layer queries, dropnas,
    sorts, joins of every kind, `frame['nest.field'] = values` (existing or new nest) and eval
    assignment — of any length, stay sound: only success of each step is assumed. -/
theorem every_chain_stays_sound (ops : List AllOp) (F : NFrame Cell) (h : F.Sound) (F' : NFrame Cell)
    (hok : runAllChain F ops = .ok F') : F'.Sound :=
  runAllChain_sound ops F h F' hok

open NP in
/-- … and with **removing fields** (`nf[n] = nf[n].nest.without_field(…)`) and **selecting fields**
    (`nf[n] = nf[n].nest[[…]]`) as further steps of the chain. -/
theorem chains_with_field_removal_and_selection_stay_sound (ops : List FullOp) (F : NFrame Cell) (h : F.Sound)
    (F' : NFrame Cell) (hok : runFullChain F ops = .ok F') : F'.Sound :=
  runFullChain_sound ops F h F' hok

open NP in
/-- non-vacuity: the sample frame (a nested column in two chunks, the first a slice into a larger
    buffer) is sound -/
example : Samples.qframe.Sound :=
  NFrame.sound_iff.mpr fun p hp => by
    simp only [Samples.qframe, List.mem_cons, List.not_mem_nil, or_false] at hp
    rcases hp with rfl | rfl
    · rfl
    · show _ ∧ _ ∧ _
      decide +kernel

end NP.C18
