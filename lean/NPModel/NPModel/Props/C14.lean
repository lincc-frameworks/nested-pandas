/-
  C14 — The dotted name 'nest.field' means the same thing everywhere.

  Every operation that accepts a column path (`__getitem__`, `__setitem__`, `reduce`, `sort_values`,
  `dropna`, and — through the resolver — `query`/`eval`) obtains the nest and the field from
  `_parse_hierarchical_components`; the model has ONE function for it, `parseComponents`.
-/
import NPModel.Refine.NamesParse
namespace NP.C14
open NP

/-- **Plain spelling**: `nest.field` with names free of `.` and `` ` `` parses to `[nest, field]`. -/
theorem parse_plain (clean : Str → Str) (a b : Str)
    (ha : noChar '.' a = true) (hb : noChar '.' b = true) (ha' : noChar '`' a = true) (hb' : noChar '`' b = true) :
    parseComponents clean none (a ++ '.' :: b) = [a, b] := by
  unfold parseComponents
  have hq : noChar '`' (a ++ '.' :: b) = true := by
    simp only [noChar, List.all_append, List.all_cons, Bool.and_eq_true] at *
    exact ⟨ha', by decide, hb'⟩
  simp only [identifyAliases_plain clean hq]
  rw [split1_part_sep b [] ha, split1_last [] hb]
  simp [aliasLookup]

/-- **Quoted spelling**: `` `nest`.`field` `` parses to `[nest, field]` for ANY names without a
    backtick — spaces, punctuation, dots, Python keywords, digits first — as long as
    `clean_column_name` yields dot-free text and does not identify the two names. -/
theorem parse_quoted (clean : Str → Str) (a b : Str)
    (ha : noChar '`' a = true) (hb : noChar '`' b = true) (hane : a ≠ []) (hbne : b ≠ [])
    (hca : noChar '.' (clean a) = true) (hcb : noChar '.' (clean b) = true)
    (hinj : clean a = clean b → a = b) :
    parseComponents clean none ('`' :: (a ++ '`' :: '.' :: '`' :: (b ++ ['`']))) = [a, b] :=
  parse_quoted_pair clean a b ha hb hane hbne hca hcb hinj

theorem spellings_agree (clean : Str → Str) (a b : Str)
    (ha : noChar '.' a = true) (hb : noChar '.' b = true) (ha' : noChar '`' a = true) (hb' : noChar '`' b = true)
    (hane : a ≠ []) (hbne : b ≠ [])
    (hca : noChar '.' (clean a) = true) (hcb : noChar '.' (clean b) = true) (hinj : clean a = clean b → a = b) :
    parseComponents clean none ('`' :: (a ++ '`' :: '.' :: '`' :: (b ++ ['`'])))
      = parseComponents clean none (a ++ '.' :: b) := by
  rw [parse_quoted clean a b ha' hb' hane hbne hca hcb hinj, parse_plain clean a b ha hb ha' hb']

/-- **Precedence in item access**: a base column whose name is the very text of the path wins. -/
theorem base_column_takes_precedence (clean : Str → Str) (attr : Option (List (Str × Str))) (S : Schema) (item : Str)
    (h : S.base.contains item = true) : getitemResolve clean attr S item = .column item := by
  unfold getitemResolve
  rw [if_pos h]

/-- … and so does one named like the cleaned path (backticks used although not necessary). -/
theorem cleaned_base_column_takes_precedence (clean : Str → Str) (attr : Option (List (Str × Str))) (S : Schema)
    (item : Str) (h1 : S.base.contains item = false)
    (h2 : S.base.contains (joinDot (parseComponents clean attr item)) = true) :
    getitemResolve clean attr S item = .column (joinDot (parseComponents clean attr item)) := by
  simp only [getitemResolve, h1, h2, Bool.false_eq_true, if_false, if_true]

/-- **Otherwise item access resolves exactly what the common parser and the field listing say.** -/
theorem getitem_resolves_known_field (clean : Str → Str) (attr : Option (List (Str × Str))) (S : Schema) (item n f : Str)
    (h1 : S.base.contains item = false) (hc : parseComponents clean attr item = [n, f])
    (h2 : S.base.contains (joinDot [n, f]) = false) (hk : isKnownHierarchical S [n, f] = true) :
    getitemResolve clean attr S item = .field n f := by
  simp only [getitemResolve, h1, hc, h2, hk, Bool.false_eq_true, if_false, if_true]
  rfl

/-- **An unknown path is an error, never a silent resolution to something else.** -/
theorem unknown_path_is_error (clean : Str → Str) (attr : Option (List (Str × Str))) (S : Schema) (item : Str)
    (h1 : S.base.contains item = false)
    (h2 : S.base.contains (joinDot (parseComponents clean attr item)) = false)
    (hk : isKnownHierarchical S (parseComponents clean attr item) = false) :
    getitemResolve clean attr S item = .keyError := by
  simp only [getitemResolve, h1, h2, hk, Bool.false_eq_true, if_false]

/-- **Item assignment agrees with item access** on known fields: the same `[nest, field]`. -/
theorem setitem_resolves_known_field (clean : Str → Str) (attr : Option (List (Str × Str))) (S : Schema) (key n f : Str)
    (hc : parseComponents clean attr key = [n, f]) (hk : isKnownHierarchical S [n, f] = true) :
    setitemResolve clean attr S key = .field n f := by
  simp [setitemResolve, hc, hk]

/-- **The listing is consistent with what is accepted**: a two-component path is known exactly
    when its nest is listed and lists its field. -/
theorem listing_consistent (S : Schema) (n f : Str) :
    isKnownHierarchical S [n, f] = true ↔
      ∃ b fields, S.nested.find? (·.1 == n) = some (b, fields) ∧ fields.contains f = true := by
  show (match S.nested.find? (·.1 == n) with
        | some (_, fields) => fields.contains (joinDot [f])
        | none => false) = true ↔ _
  cases hfind : S.nested.find? (·.1 == n) with
  | none => simp
  | some p =>
    obtain ⟨b, fields⟩ := p
    refine ⟨fun h => ⟨b, fields, rfl, h⟩, ?_⟩
    rintro ⟨_, _, he, hc⟩
    cases he
    exact hc

/-- non-vacuity: the hypotheses of `parse_quoted` are met by `my nest` / `b c` with a `clean` that
    replaces spaces (as pandas does) -/
example :
    let clean : Str → Str := fun s => s.map fun c => if c = ' ' then '_' else c
    let a : Str := ['m', 'y', ' ', 'n', 'e', 's', 't']; let b : Str := ['b', ' ', 'c']
    noChar '`' a = true ∧ noChar '`' b = true ∧ a ≠ [] ∧ b ≠ [] ∧ noChar '.' (clean a) = true ∧
      noChar '.' (clean b) = true ∧ (clean a = clean b → a = b) := by
  decide +kernel

end NP.C14
