/-
  C12 — Dropping missing values in a nested layer removes incomplete records per row.
-/
import NPModel.Refine.QueryRows
namespace NP.C12
open NP
variable {α : Type}

/-- **Removing incomplete records inside every row**: `dropna` on a nested layer runs the same
    filter-and-repack pipeline as a nested query, with the mask "record is complete".  For every
    number of rows, row lengths and completeness pattern: packed rows = non-empty filtered rows in
    order; packed index = rows that keep a record (the others become missing); the records of row
    `i` after the operation are exactly its complete records in their original order. -/
theorem dropna_filters_inside_rows (masks : List (List Bool)) (lists : List (List α))
    (h : All2 (fun m l => m.length = l.length) masks lists) :
    let keep := masks.flatten
    let ords := repeatEach (List.range lists.length) (lists.map List.length)
    let ords' := filterBy keep ords
    let flat' := filterBy keep lists.flatten
    segs (packOffsets ords') flat' = (nonemptyRuns (rowRuns 0 masks lists)).map (·.2) ∧
    ((packOffsets ords').dropLast).map (fun o => ords'.getD o 0) = (nonemptyRuns (rowRuns 0 masks lists)).map (·.1) ∧
    ∀ i m l, masks[i]? = some m → lists[i]? = some l → valsOfLabel i ords' flat' = filterBy m l :=
  repack_filtered masks lists h

/-- `how="any"` (the default): a record is kept iff none of the inspected cells is missing. -/
theorem how_any (isNull : α → Bool) (cells : List α) :
    keepRecord isNull .any none cells = cells.all (fun c => !isNull c) := by
  unfold keepRecord
  rw [Bool.eq_iff_iff]
  simp only [decide_eq_true_eq, List.length_filter_eq_length_iff, List.all_eq_true]

/-- `how="all"`: a record is dropped iff every inspected cell is missing (and there is one). -/
theorem how_all (isNull : α → Bool) (cells : List α) (hne : cells ≠ []) :
    keepRecord isNull .all none cells = cells.any (fun c => !isNull c) := by
  unfold keepRecord
  rw [Bool.eq_iff_iff]
  simp only [hne, List.length_eq_zero_iff, or_false, decide_eq_true_eq, gt_iff_lt, List.length_filter_pos_iff,
    List.any_eq_true]

/-- `thresh=t`: a record is kept iff at least `t` inspected cells are present. -/
theorem thresh_counts_present (isNull : α → Bool) (how : How) (t : Nat) (cells : List α) :
    keepRecord isNull how (some t) cells = decide ((cells.filter fun c => !isNull c).length ≥ t) := rfl

/-- Target resolution: subset entries naming two different layers are refused. -/
theorem mixed_subset_refused (nested : List String) (a b : String) (ha : nested.contains a = true)
    (hb : nested.contains b = true) (hab : a ≠ b) (f g : String) (on : Option String) :
    resolveDropnaTarget nested on (some [[a, f], [b, g]]) = .error .valueError := by
  simp [resolveDropnaTarget, subsetLayer, List.contains_iff_mem.mp ha, List.contains_iff_mem.mp hb, bind, Except.bind, pure, Except.pure, List.mapM_cons, hab.symm]

/-- `on_nested` alone aims at that layer; a dotted subset alone aims at its layer; both must agree. -/
theorem on_nested_aims (nested : List String) (n : String) (h : nested.contains n = true) :
    resolveDropnaTarget nested (some n) none = .ok (.nest n) := by
  simp [resolveDropnaTarget, List.contains_iff_mem.mp h, bind, Except.bind, pure, Except.pure]

theorem subset_aims (nested : List String) (n f : String) (h : nested.contains n = true) :
    resolveDropnaTarget nested none (some [[n, f]]) = .ok (.nest n) := by
  simp [resolveDropnaTarget, subsetLayer, List.contains_iff_mem.mp h, bind, Except.bind, pure, Except.pure, List.mapM_cons]

theorem conflicting_targets_refused (nested : List String) (n m f : String) (hn : nested.contains n = true)
    (hm : nested.contains m = true) (hne : m ≠ n) :
    resolveDropnaTarget nested (some n) (some [[m, f]]) = .error .valueError := by
  simp [resolveDropnaTarget, subsetLayer, List.contains_iff_mem.mp hn, List.contains_iff_mem.mp hm, bind, Except.bind, pure, Except.pure, List.mapM_cons, hne]

theorem base_is_default (nested : List String) : resolveDropnaTarget nested none none = .ok .base := rfl

example : keepRecord (fun (c : Option Nat) => c.isNone) .any none [some 1, none] = false ∧
    keepRecord (fun (c : Option Nat) => c.isNone) .all none [some 1, none] = true ∧
    keepRecord (fun (c : Option Nat) => c.isNone) .any (some 1) [some 1, none] = true := by decide +kernel

/-- **`dropna` on a nested layer, at the level of the frame**: with `masks` = "this record has no
    null in the inspected fields" (any masks), the flat view filtered by the flattened mask and
    re-packed through `_set_filtered_flat_df` leaves in row `i` exactly the complete records of
    row `i` in their original order, every field filtered by the same mask; a row left without
    records becomes missing, and no row of the frame is dropped (`col.rows.length` = number of
    frame rows). -/
theorem dropna_filters_rows_of_the_frame (F : NFrame α) (nest : String)
    (cols : List (String × String × List (List α))) (lens : List Nat) (masks : List (List Bool))
    (hn : lens.length = F.index.length) (hcols : ∀ c ∈ cols, c.2.2.map List.length = lens)
    (hmasks : All2 (fun m n => m.length = n) masks lens) (hne : cols ≠ []) :
    ∃ col, F.setFilteredFlatDf nest ((ordFlat cols lens).filterRows masks.flatten) = .ok (F.setCol nest (.nest col)) ∧
      col.rows = repackedRows (cols.map fun c => (c.1, c.2.1, filterRowsBy masks c.2.2))
        (masks.map fun m => (m.filter id).length) ∧ col.rows.length = F.index.length :=
  filter_then_repack nest hn hcols hmasks hne

/-- **`dropna` on a nested layer, end to end** (`NP.NFrame.dropnaNested`, the model checked against
    the code): for every frame whose nested column `nest` is stored cleanly (any chunking and
    offsets), every `how` / `thresh`, and every `subset` naming fields of that column (or none),
    the call succeeds and replaces only that column; record `j` of the flat view is kept iff
    `keepRecord` says so of its cells in the inspected fields (`dropna_keeps_by_record`); row `i` of
    the result holds exactly the kept records of row `i` in their original order, every field
    filtered alike; a row left without records is missing; no frame row is added, dropped or
    moved. -/
theorem dropna_nested_end_to_end (isNull : α → Bool) (F : NFrame α) (nest : String) (c : PCol α)
    (hc : F.nest? nest = .ok c) (hclean : c.Clean) (hch : c.chunks ≠ []) (hidx : F.index.length = c.len)
    (how : How) (thresh : Option Nat) (subset : Option (List String))
    (hsub : ∀ fs, subset = some fs → ∀ f ∈ fs, c.ty.any (·.1 == f) = true) :
    let lens := c.rows.map Row.len
    let flat := ordFlat (colLists c) lens
    let keep := dropnaKeep isNull how thresh (inspectedCols flat subset) flat.len
    let masks := Spec.splitBy lens keep
    ∃ col, F.dropnaNested isNull nest how thresh subset = .ok (F.setCol nest (.nest col)) ∧
      col.rows = repackedRows ((colLists c).map fun f => (f.1, f.2.1, filterRowsBy masks f.2.2))
        (masks.map fun m => (m.filter id).length) ∧
      col.rows.length = F.index.length ∧ masks.flatten = keep ∧ masks.map List.length = lens :=
  dropnaNested_rows isNull F nest c hc hclean hch hidx how thresh subset hsub

theorem dropna_keeps_by_record (isNull : α → Bool) (how : How) (thresh : Option Nat)
    (cols : List (String × String × List α)) (n j : Nat) (hj : j < n) :
    (dropnaKeep isNull how thresh cols n)[j]? = some (keepRecord isNull how thresh (recordCells cols j)) := by
  simp [dropnaKeep, List.getElem?_map, List.getElem?_range hj]

end NP.C12
