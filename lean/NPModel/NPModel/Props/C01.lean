/-
  C01 — Every nested value is a rectangular table; ragged input is refused.
-/
import NPModel.Refine.Take
import NPModel.Refine.Fields
import NPModel.Refine.Samples
import NPModel.Refine.ViewTrips
namespace NP.C01
open NP
variable {α : Type}

/-- Soundness of the validator every entry point runs (`__init__`, `_replace_chunked_array`,
    `set_list_field`, `__setitem__`, `take`, `_concat_same_type`, `astype`, `read_parquet`):
    a column it accepts has a rectangular table in every non-missing row of every chunk —
    any number of chunks, any slice offsets, any buffers. -/
theorem validate_sound (c : PCol α) (hw : c.WF = true) (hne : ∀ s ∈ c.chunks, s.nullEmpty = true)
    (hv : c.validate = .ok ()) : rectRows c.rows = true :=
  PCol.validate_rect c hw hne hv

/-- Contrapositive: ragged input is refused by the validator (never accepted). -/
theorem ragged_is_refused (c : PCol α) (hw : c.WF = true) (hne : ∀ s ∈ c.chunks, s.nullEmpty = true)
    (hr : rectRows c.rows = false) : c.validate ≠ .ok () := by
  intro hv
  cases (validate_sound c hw hne hv).symm.trans hr

/-- Assigning a list field stores only validated storage: whatever `set_list_field` returns has
    passed the validator. -/
theorem set_list_field_validates {c c' : PCol α} {f ty : String} {value : PList α} {keep : Bool}
    (h : NArr.setListField c f ty value keep = .ok c') : c'.validate = .ok () :=
  (setListField_inv h).2.2

/-- The unvalidated paths keep the invariant: a window of a rectangular chunk is rectangular
    (`__getitem__` with a slice, `iloc`, `head`, `tail`: `validate=False`). -/
theorem slice_keeps_rect (s : PStruct α) (st n : Nat) (h : st + n ≤ s.len) (hr : rectRows s.rows = true) :
    rectRows (s.slice st n).rows = true := by
  rw [PStruct.slice_rows s st n h]
  unfold rectRows at *
  rw [List.all_eq_true] at *
  exact fun r hr' => hr r (mem_window r hr')

/-- … and so is any selection of rows by position (`take`, integer-array and mask selection,
    reordering, repeats, fill with a missing row). -/
theorem take_keeps_rect (s : PStruct α) (idx : List (Option Nat)) (hr : rectRows s.rows = true) :
    rectRows (s.take idx).rows = true := by
  rw [PStruct.take_rows s idx]
  unfold rectRows at *
  rw [List.all_map, List.all_eq_true]
  rintro (_ | j) _
  · rfl
  · show Row.rect (s.rows[j]?).join = true
    cases hj : s.rows[j]? with
    | none => rfl
    | some r => exact List.all_eq_true.mp hr r (List.mem_of_getElem? hj)

/-- non-vacuity: the sample column (three chunks, a slice into a larger buffer, a missing row,
    a null child list) satisfies the hypotheses of `validate_sound` -/
example : Samples.c1.WF = true ∧ (∀ s ∈ Samples.c1.chunks, s.nullEmpty = true) ∧ Samples.c1.validate = .ok () := by
  decide +kernel

/-- and a ragged chunk is indeed refused by the modelled validator -/
example : (PStruct.validate { Samples.s1 with kids := [Samples.fa, { Samples.fb with list := { offs := [0, 1, 1, 3], valid := [true, true, true], vals := [7, 8, 6] } }] }) = .error .valueError := by
  decide +kernel

/-- **Element assignment never stores a ragged row** — for every column in any layout, every
    key of any kind (repeated targets included) and every value (a row or an array of rows, ragged
    or not): what `__setitem__` returns is the unchanged column or has passed the validator on
    freshly built storage, so its rows are rectangular whenever the column's were. -/
theorem setitem_never_stores_ragged (c c' : PCol α) (k : Key) (v : SetVal α) (h : NArr.setItem c k v = .ok c')
    (hr : rectRows c.rows = true) : rectRows c'.rows = true := by
  simp only [NArr.setItem, exc] at h
  obtain ⟨⟨mask, argsort⟩, _, h⟩ := h
  rcases (ite_ok_eq_ok h).imp_right setItemApply_inv with rfl | rfl | ⟨vals, ho⟩
  · exact hr
  · exact hr
  · exact setItemFinish_rect ho

/-- … and a ragged value that would be used is refused (ValueError) with nothing returned:
    statement for a boolean-mask key with one target. -/
example : (NArr.setItem Samples.c1 (.mask [true, false, false, false])
    (.scalar (some [("a", [1, 2]), ("b", [3])]))).toBool = false := by decide +kernel

/-- On canonical (freshly built) storage the validator accepts EXACTLY the aligned chunks: it is
    complete as well as sound there. -/
theorem validator_exact_on_fresh_storage (s : PStruct α) (hc : s.canonical) : s.validate = .ok () ↔ s.aligned :=
  PStruct.canonical_validate_iff s hc

/-- **The constructor never returns unvalidated storage**: whatever `__init__` (with validation, the
    default) returns has passed the equal-lengths validator, chunk by chunk — also when it had to
    supply the one empty chunk of a zero-chunk input. -/
theorem constructor_validates (c c' : PCol α) (h : NArr.init c true = .ok c') : c'.validate = .ok () := by
  obtain ⟨rfl, hv⟩ := NArr.init_eq_ok.mp h
  exact hv rfl

/-- **Every validating entry point of the model returns validated storage**: `pack_lists`
    (`validate=True`, behind `from_lists` / `nest_lists`), `pack_seq` / `from_sequence`, `take` in
    both modes, `_concat_same_type`, `dropna` — each ends in the constructor. -/
theorem entry_points_validate :
    (∀ (index : List Label) (cols : List (String × String × List (PList α))) (s : NSeries α),
      packLists index cols true = .ok s → s.col.validate = .ok ()) ∧
    (∀ (index : List Label) (ty : List (String × String)) (rows : List (Row α)) (s : NSeries α),
      packSeq index ty rows = .ok s → s.col.validate = .ok ()) ∧
    (∀ (ty : List (String × String)) (cs : List (PCol α)) (c' : PCol α), NArr.concat ty cs = .ok c' → c'.validate = .ok ()) ∧
    (∀ (c c' : PCol α), NArr.dropna c = .ok c' → c'.validate = .ok ()) := by
  refine ⟨?_, ?_, fun _ _ c' h => constructor_validates _ c' h, fun _ c' h => constructor_validates _ c' h⟩
  · intro index cols s h
    simp only [packLists, exc] at h
    obtain ⟨_, -, c, hc, rfl⟩ := h
    exact constructor_validates _ c hc
  · intro index ty rows s h
    simp only [packSeq, exc] at h
    obtain ⟨c, hc, rfl⟩ := h
    exact constructor_validates _ c hc

/-- `take` in both modes (with or without a fill value, any fill value) returns validated storage -/
theorem take_validates (c c' : PCol α) (indices : List Int) (allowFill : Bool) (fill : Row α)
    (h : NArr.take c indices allowFill fill = .ok c') : c'.validate = .ok () :=
  (NArr.take_inv h).2

/-- **`pack_seq` (behind `pack(<sequence>)`, `from_sequence`, `add_nested(<sequence>)`) refuses ragged
    input**: as soon as ONE of the offered rows is not rectangular under the dtype — whatever the other
    rows are, however many — nothing is packed and the call fails with ValueError; and when every row is
    rectangular it stores exactly those rows (`C02.pack_seq_stores_the_rows`). -/
theorem pack_seq_refuses_ragged (idx : List Label) (ty : List (String × String)) (rows : List (Row α))
    (r : Row α) (hr : r ∈ rows) (hrag : Row.rect (normRow ty r) = false) :
    packSeq idx ty rows = .error .valueError :=
  packSeq_ragged idx ty rows r hr hrag

/-- non-vacuity: a dict-like row whose two fields have 2 and 1 values is ragged under its dtype -/
example : Row.rect (normRow [("a", "int64"), ("b", "int64")] (some [("a", [1, 2]), ("b", [(3 : Nat)])])) = false := by decide +kernel

end NP.C01
