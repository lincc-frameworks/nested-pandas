/-
  C05 — A nested column behaves like a sequence of rows.
-/
import NPModel.Refine.Samples
import NPModel.Refine.Positions
import NPModel.Refine.CleanFilter
namespace NP.C05
open NP
variable {α : Type}

/-- Slicing a chunk (zero-copy window: raw offsets kept, child buffers shared) shows exactly the
    window of its rows — for every chunk, every window inside it, any offsets and any buffers. -/
theorem chunk_slice_refines (s : PStruct α) (st n : Nat) (h : st + n ≤ s.len) :
    (s.slice st n).rows = (s.rows.drop st).take n :=
  PStruct.slice_rows s st n h

/-- Taking rows of a chunk by (optionally masked) positions gives, position by position, the row
    the index points to, and a missing row for a masked index — repeats, any order, any layout. -/
theorem chunk_take_refines (s : PStruct α) (idx : List (Option Nat)) :
    (s.take idx).rows = idx.map (pickRow s.rows) :=
  PStruct.take_rows s idx

/-- **`column[key]` is `rows[key]`** — the whole of `NestedExtensionArray.__getitem__`, for every
    well-formed column in any physical layout (any number of chunks incl. empty ones, slices with
    raw offsets, hidden child lists) and EVERY key: an integer (negative counts from the end,
    out of range = IndexError), a slice with any start/stop/step incl. negative and zero step
    (ValueError), a boolean mask (wrong length = IndexError), an integer array with repeats and
    negatives.  Left: the implementation model on the physical storage, abstracted afterwards;
    right: the same indexing on the plain list of rows. -/
theorem getitem_refines (c : PCol α) (hw : c.WF = true) (k : Key) :
    (NArr.getItem c k).map absGet = Spec.getItem c.rows k :=
  getItem_refines c hw k

/-- Column-level `take` by positions (chunked storage): row `i` of the result is the row the
    `i`-th position points to. -/
theorem column_take_refines (c : PCol α) (hw : c.WF = true) (idx : List (Option Nat)) :
    (c.take idx).rows = idx.map (pickRow c.rows) :=
  PCol.take_rows hw

/-- Boolean-mask selection on chunked storage (chunk-wise `filter`). -/
theorem column_filter_refines (c : PCol α) (hw : c.WF = true) (m : List Bool) (hm : m.length = c.len) :
    (c.filter m).rows = filterBy m c.rows :=
  PCol.filter_rows hw hm

/-- `ChunkedArray.slice` over any chunking reads as the slice of the rows. -/
theorem chunked_slice_refines (chunks : List (PStruct α)) (st n : Nat) :
    (chunkedSlice chunks st n).flatMap PStruct.rows = ((chunks.flatMap PStruct.rows).drop st).take n :=
  chunkedSlice_rows chunks st n

/-- Pickling (`__getstate__` = `combine_chunks`) preserves every row. -/
theorem pickle_refines (c : PCol α) (hw : c.WF = true) : (NArr.pickle c).rows = c.rows :=
  PCol.rows_single.trans (PCol.combine_rows c hw)

/-- **`take` is list `take`** (negative positions count from the end; out of range and a
    non-empty take from an empty column = IndexError), on validated storage in any layout; the
    result passes the constructor's validation. -/
theorem take_refines (c : PCol α) (hw : c.WF = true) (ha : c.aligned) (indices : List Int) (fill : Row α) :
    (NArr.take c indices false fill).map PCol.rows = Spec.take c.rows indices false fill :=
  take_refines_nofill c hw ha indices fill

/-- **`take(..., allow_fill=True, fill_value=row)` is list `take` with a fill row**: `-1` becomes
    the fill row, any other negative position is a ValueError, a position beyond the end an
    IndexError — for every validated column in any layout and every fill row that conforms to the
    dtype (`None`, or a rectangular table of the dtype's fields); the result passes the
    constructor's validation. -/
theorem take_fill_refines (c : PCol α) (hw : c.WF = true) (ha : c.aligned) (indices : List Int) (fill : Row α)
    (hfill : Spec.conformRow c.ty fill = some fill) :
    (NArr.take c indices true fill).map PCol.rows = Spec.take c.rows indices true fill :=
  take_refines_fill c hw ha indices fill hfill

/-- non-vacuity: `None` and a table with the dtype's fields conform -/
example : Spec.conformRow [("a", "int64"), ("b", "int64")] (none : Row Nat) = some none ∧
    Spec.conformRow [("a", "int64"), ("b", "int64")] (some [("a", [1, 2]), ("b", [3, 4])])
      = some (some [("a", [1, 2]), ("b", [3, 4])]) := by decide +kernel

/-- **`dropna` drops exactly the missing rows**, in order, on validated storage in any layout; the
    result passes the constructor's validation (a column left with no chunk is one empty chunk). -/
theorem dropna_refines (c : PCol α) (hw : c.WF = true) (ha : c.aligned) :
    (NArr.dropna c).map PCol.rows = .ok (Spec.dropna c.rows) :=
  NP.dropna_refines c hw ha

/-- **Concatenation is `++`**: the chunks of all inputs in order, validated. -/
theorem concat_is_append (ty : List (String × String)) (cs : List (PCol α)) (hv : ∀ c ∈ cs, c.validate = .ok ())
    (hne : cs.flatMap (·.chunks) ≠ []) :
    (NArr.concat ty cs).map PCol.rows = .ok (Spec.concat (cs.map PCol.rows)) :=
  concat_refines ty cs hv hne

/-- **`column[key] = value` is `rows[key] = value`** — the whole of
    `NestedExtensionArray.__setitem__`, for every validated column in any physical layout (any
    number of chunks, slices with raw offsets, hidden child lists), EVERY key whose targets are
    distinct — an integer (negative counts from the end; out of range = IndexError), a slice with
    any start/stop/step (negative step: values in key order; zero step = ValueError), a boolean
    mask (wrong length = IndexError), an integer array (`Key.distinct` excludes only repeated
    targets, the property's domain) — and every value: one row broadcast to all targets or an
    array of rows.  Too few values = IndexError; a ragged row among the values used = ValueError
    and nothing is stored; nothing selected = no change; otherwise the values stand at the
    targets in key order, read back through the column's dtype, and every other row — missing,
    empty or not — is unchanged.  The proof goes through `np.unique`/argsort, the mask,
    `cumsum(mask) - 1` broadcast, `if_else` and the validator of the implementation model. -/
theorem setitem_refines (c : PCol α) (hw : c.WF = true) (ha : c.aligned) (k : Key) (v : SetVal α)
    (hd : k.distinct c.len) :
    (NArr.setItem c k v).map PCol.rows = Spec.setItem c.ty c.rows k v :=
  setItem_refines c hw ha k v hd

/-- non-vacuity: keys of every kind with distinct targets exist for the 4-row sample column -/
example : (Key.int (-1)).distinct 4 ∧ (Key.slice (some 3) none (some (-2))).distinct 4 ∧
    (Key.mask [true, false, true, false]).distinct 4 ∧ (Key.ints [2, -4, 1]).distinct 4 := by
  refine ⟨trivial, trivial, trivial, ?_⟩
  show ([2, -4, 1].map (normPos 4)).filterMap id |>.Nodup
  decide +kernel

/-- **`column[mask] = value` is `rows[mask] = value`** — `NestedExtensionArray.__setitem__` with a
    boolean-mask key, for every validated column in any physical layout (chunks, slices, hidden
    child lists), every mask and every value (one row broadcast, or an array of rows): a mask of
    the wrong length and too few values are IndexErrors, a ragged row among the values used is a
    ValueError with nothing stored, nothing selected is no change; otherwise the values stand at
    the selected rows in order, read back through the column's dtype (absent field = empty
    list), and every other row — missing, empty or not — is unchanged. -/
theorem setitem_mask_refines (c : PCol α) (hw : c.WF = true) (ha : c.aligned) (m : List Bool) (v : SetVal α) :
    (NArr.setItem c (.mask m) v).map PCol.rows = Spec.setItem c.ty c.rows (.mask m) v :=
  setItem_mask_refines hw ha

/-- The last step of every element assignment, whatever the key: `replace_with_mask` on the
    combined storage followed by the validated replacement either fails (IndexError for too few
    values, ValueError for a ragged value that would be used) or puts the values at the set
    positions in order and leaves every other row unchanged. -/
theorem setitem_finish (c : PCol α) (hw : c.WF = true) (ha : c.aligned) (mask : List Bool)
    (hl : mask.length = c.len) (hpos : 0 < (mask.filter id).length) (vals : List (PScalar α)) :
    (setItemFinish c mask vals).map PCol.rows =
      if vals.length < (mask.filter id).length then .error .indexError
      else if (List.range' 0 (mask.filter id).length).all (fun s => Row.rect (readBack c.ty vals s)) then
        .ok (place (readBack c.ty vals) 0 mask c.rows)
      else .error .valueError :=
  setItemFinish_spec c hw ha mask hl hpos vals

/-- validated storage is aligned, so the hypotheses of `take_refines` are met by everything the
    constructor accepts -/
theorem validated_is_aligned (c : PCol α) (hw : c.WF = true) (hne : ∀ s ∈ c.chunks, s.nullEmpty = true)
    (hv : c.validate = .ok ()) : c.aligned :=
  PCol.aligned_of_validate hw hne hv

/-- non-vacuity for the column-level theorems: the three-chunk sample column is well formed -/
example : Samples.c1.WF = true ∧ Samples.c1.rows.length = 4 := by decide +kernel

/-- non-vacuity: a sliced, non-zero-based chunk with a missing row and a null child list -/
example : (Samples.s1.slice 1 2).rows = [none, some [("a", [3]), ("b", [6])]] ∧
    (Samples.s1.take [some 2, none, some 0]).rows
      = [some [("a", [3]), ("b", [6])], none, some [("a", [1, 2]), ("b", [7, 8])]] := by
  decide +kernel

/-- **The sequence operations keep the storage invariant**: positional `take` (both modes, missing
    fill), selection by a boolean mask and `_concat_same_type` of clean columns return `Clean`
    storage (well formed, validated, nothing hidden under missing rows) — so every theorem stated
    for clean storage applies to what they return. -/
theorem sequence_operations_keep_storage_clean :
    (∀ (c : PCol α), c.Clean → ∀ (indices : List Int) (allowFill : Bool) (c' : PCol α),
      NArr.take c indices allowFill none = .ok c' → c'.Clean ∧ c'.len = indices.length ∧ c'.chunks ≠ []) ∧
    (∀ (c : PCol α), c.Clean → c.chunks ≠ [] → ∀ (m : List Bool) (c' : PCol α),
      NArr.getItem c (.mask m) = .ok (.col c') → c'.Clean ∧ c'.chunks ≠ [] ∧ c'.rows = filterBy m c.rows) ∧
    (∀ (ty : List (String × String)), ty ≠ [] → ∀ (cs : List (PCol α)), (∀ c ∈ cs, c.Clean ∧ c.ty = ty) →
      cs.flatMap (·.chunks) ≠ [] → ∀ c', NArr.concat ty cs = .ok c' → c'.Clean ∧ c'.chunks ≠ []) :=
  ⟨NArr.take_clean, getItem_mask_clean, concat_clean⟩

end NP.C05
