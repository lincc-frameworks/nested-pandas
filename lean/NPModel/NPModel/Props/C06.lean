/-
  C06 — Editing one nested field changes that field and nothing else.
-/
import NPModel.Refine.Samples
import NPModel.Refine.FieldSubsets
namespace NP.C06
open NP
variable {α : Type}

/-- what the chunk-wise relation says of the column as a whole: same rows missing, same length -/
private theorem frame_of_chunks {c c' : PCol α} {f ty : String} (h : All2 (FieldSet f ty) c.chunks c'.chunks) :
    All2 (FieldSet f ty) c.chunks c'.chunks ∧ NArr.isna c' = NArr.isna c ∧ c'.len = c.len :=
  have hv := h.map_eq (·.valid) (·.valid) fun _ _ hr => hr.valid_eq
  ⟨h, isna_of_valid_eq hv, len_of_valid_eq hv⟩

/-- Setting a field from per-row lists (`set_list_field`, `with_list_field`): whenever the
    operation succeeds, the result has the same chunks with the same validity (so the same rows
    are missing and the number of rows is unchanged), every other field is the *same list array*
    (bit-identical buffers, types included), and field `f` holds a window of the supplied lists.
    Holds for every layout, field name (new or existing) and value. -/
theorem set_list_field_frame_condition {c c' : PCol α} {f ty : String} {value : PList α} {keep : Bool}
    (h : NArr.setListField c f ty value keep = .ok c') :
    All2 (FieldSet f ty) c.chunks c'.chunks ∧ NArr.isna c' = NArr.isna c ∧ c'.len = c.len :=
  frame_of_chunks (setListField_chunks h)

/-- The same frame condition for flat values (`set_flat_field`, `with_flat_field`, `.nest[f] = v`,
    `NestedFrame['nest.f'] = v`). -/
theorem set_flat_field_frame_condition {c c' : PCol α} {f ty : String} {value : FlatVal α} {keep : Bool}
    (h : NArr.setFlatField c f ty value keep = .ok c') :
    All2 (FieldSet f ty) c.chunks c'.chunks ∧ NArr.isna c' = NArr.isna c ∧ c'.len = c.len :=
  frame_of_chunks (setFlatField_chunks h)

/-- … and for one value per row repeated over the row's records (`fill_field_lists`,
    `with_filled_field`, base-aligned Series assigned to `NestedFrame['nest.f']`). -/
theorem fill_field_lists_frame_condition {c c' : PCol α} {f ty : String} {value : List α} {keep : Bool}
    (h : NArr.fillFieldLists c f ty value keep = .ok c') :
    All2 (FieldSet f ty) c.chunks c'.chunks ∧ NArr.isna c' = NArr.isna c ∧ c'.len = c.len :=
  frame_of_chunks (fillFieldLists_chunks h)

/-- **The edited field holds exactly the supplied values**: after `set_list_field` chunk `i`
    holds, as field `f`, the `i`-th window of the supplied list array (`pa_array[sl]`), and the
    flat view of `f` over the whole column is the flat view of the supplied list array — nothing
    lost, duplicated or reordered, for any chunking. -/
theorem edited_field_holds_supplied_values {c c' : PCol α} {f ty : String} {value : PList α} {keep : Bool}
    (h : NArr.setListField c f ty value keep = .ok c') (hvl : value.rows.length = c.len) :
    c'.chunks.map (fun s' => (s'.kid? f).map (·.list)) = (windows value c.chunks 0).map some ∧
    (c'.chunks.flatMap fun s' => ((s'.kid? f).map (·.list.flatten)).getD []) = value.flatten := by
  obtain ⟨rfl, _, _⟩ := setListField_inv h
  have hw := setChunk_field f ty (windows_length value c.chunks 0)
  have hall : value.rows.take (sumNat (c.chunks.map PStruct.len)) = value.rows := List.take_of_length_le (Nat.le_of_eq hvl)
  refine ⟨hw, ?_⟩
  -- the flat view reads only the field's list array: concatenate the windows
  calc _ = ((List.zipWith (setChunk f ty) c.chunks (windows value c.chunks 0)).map fun s' => (s'.kid? f).map (·.list)).flatMap
          fun o => (o.map PList.flatten).getD [] := by
        rw [List.flatMap_map]
        exact congrArg (List.flatMap · _) (funext fun s' => by cases s'.kid? f <;> rfl)
    _ = (windows value c.chunks 0).flatMap PList.flatten := by rw [hw, List.flatMap_map]; rfl
    _ = value.flatten := by rw [windows_flatten, List.drop_zero, hall]; rfl

/-- The edited field is exactly the supplied list array, the others are looked up unchanged. -/
theorem upsert_reads_back (kids : List (PField α)) (k : PField α) :
    (upsertKid kids k).find? (fun x => x.name == k.name) = some k ∧
    ∀ g, (k.name == g) = false → (upsertKid kids k).find? (fun x => x.name == g) = kids.find? (fun x => x.name == g) :=
  ⟨upsertKid_find_self kids k, upsertKid_find_other kids k⟩

/-- non-vacuity: the hypothesis is met on a three-chunk column with a sliced chunk and a missing
    row, for a new field -/
example : (NArr.setFlatField Samples.c1 "z" "int64" (.array [10, 20, 30, 40]) false).toBool = true := by
  decide +kernel

/-- **`set_list_field` row by row**: whenever the call succeeds — for every column in any layout
    (no storage invariant assumed) and every supplied list array (any offsets, buffers, nulls) — the
    result has the same rows except that every present row's table has field `f` set to that row's
    supplied list (replaced in its place, or appended as the last field); missing rows stay
    missing, the number of rows is unchanged, the dtype gets `f : ty` in the same position. -/
theorem set_list_field_row_by_row {c c' : PCol α} {f ty : String} {value : PList α} {keep : Bool}
    (h : NArr.setListField c f ty value keep = .ok c') (hvl : value.rows.length = value.len) :
    c'.rows = List.zipWith (fun r l => r.map fun t => Spec.Table.upsert t f (l.getD [])) c.rows value.rows ∧
    c'.ty = Spec.tyUpsert c.ty f ty :=
  setListField_rows h hvl

/-- **`set_flat_field` row by row** (`with_flat_field`, `.nest[f] = values`, `frame['n.f'] = values`)
    on cleanly stored columns of any chunking: the flat values are cut by the rows' record counts
    and row `i` gets the `i`-th piece; a successful call had exactly `flat_length` values. -/
theorem set_flat_field_row_by_row {c c' : PCol α} {f ty : String} {xs : List α} {keep : Bool} (hc : c.Clean)
    (h : NArr.setFlatField c f ty (.array xs) keep = .ok c') :
    c'.rows = List.zipWith (fun r l => r.map fun t => Spec.Table.upsert t f l) c.rows
                (Spec.splitBy (c.rows.map Row.len) xs) ∧
    c'.ty = Spec.tyUpsert c.ty f ty ∧ xs.length = Spec.flatLength c.rows :=
  setFlatField_rows hc h

/-- **`fill_field_lists` row by row** (`with_filled_field`, a base-aligned Series assigned to
    `frame['n.f']`): row `i` gets its one value repeated once per record of the row. -/
theorem fill_field_lists_row_by_row {c c' : PCol α} {f ty : String} {vs : List α} {keep : Bool} (hc : c.Clean)
    (h : NArr.fillFieldLists c f ty vs keep = .ok c') :
    c'.rows = List.zipWith (fun r v => r.map fun t => Spec.Table.upsert t f (List.replicate (Row.len r) v)) c.rows vs ∧
    c'.ty = Spec.tyUpsert c.ty f ty :=
  fillFieldLists_rows hc h

/-- **Removing fields** (`pop_fields`, `.nest.without_field`): whenever the call succeeds — for every column in
    any layout, no storage invariant assumed — the result declares the remaining fields in their old order, every
    row is the old row without the removed fields (so every remaining field holds the same list in every row), the
    same rows are missing and the number of rows is unchanged. -/
theorem pop_fields_row_by_row {c c' : PCol α} {fields : List String}
    (h : NArr.popFields c fields = .ok c') :
    c'.ty = (c.ty.filter fun p => ¬ fields.eraseDups.contains p.1) ∧
    c'.rows = c.rows.map (Row.without fields.eraseDups) ∧
    NArr.isna c' = NArr.isna c ∧ c'.len = c.len := by
  obtain ⟨hty, hrows, hv⟩ := popFields_rows c fields c' h
  exact ⟨hty, hrows, isna_of_valid_eq hv, len_of_valid_eq hv⟩

/-- **Selecting a subset of fields** (`view_fields`, `.nest[[fields]]`, `to_flat(fields)`, `to_lists(fields)`):
    the result declares the named fields in the order they were named, every row is the old row restricted to them
    (each under its own name, with its own list), the same rows are missing and the number of rows is unchanged. -/
theorem view_fields_row_by_row {c c' : PCol α} {fields : List String}
    (h : NArr.viewFields c fields = .ok c') :
    c'.ty = fields.filterMap (fun f => c.ty.find? (·.1 == f)) ∧
    c'.rows = c.rows.map (Row.select fields) ∧
    NArr.isna c' = NArr.isna c ∧ c'.len = c.len := by
  obtain ⟨hty, hrows, hv, hlen, _, _⟩ := viewFields_spec c fields c' h
  exact ⟨hty, hrows, isna_of_valid_eq hv, hlen⟩

/-- … and both keep cleanly stored columns cleanly stored (every observer of C03 goes on reading the rows). -/
theorem field_subsets_keep_storage_clean {c c' : PCol α} {fields : List String} (hc : c.Clean) :
    (NArr.popFields c fields = .ok c' → c'.Clean ∧ c'.chunks ≠ []) ∧
    (NArr.viewFields c fields = .ok c' → c'.Clean ∧ c'.chunks ≠ []) := by
  constructor
  · intro h
    obtain ⟨h1, _, h3⟩ := popFields_clean c hc fields c' h
    exact ⟨h1, h3⟩
  · intro h
    obtain ⟨_, _, _, _, hne, hcl⟩ := viewFields_spec c fields c' h
    exact ⟨hcl hc, hne⟩

/-- non-vacuity: both calls succeed on the three-chunk sample column (a sliced chunk, an empty chunk, a missing
    row), and the selection may reorder -/
example : (NArr.popFields Samples.c1 ["a"]).toBool = true ∧ (NArr.viewFields Samples.c1 ["b", "a"]).toBool = true ∧
    ((NArr.viewFields Samples.c1 ["b", "a"]).toOption.map (·.rows)) =
      some [some [("b", [7, 8]), ("a", [1, 2])], none, some [("b", [6]), ("a", [3])], some [("b", [4]), ("a", [5])]] := by
  decide +kernel

end NP.C06
