/-
  C07 — A query on a nested field filters inside every row, and only there.

  The implementation (core.py `query` → `_set_filtered_flat_df`) evaluates the condition on the
  flat view, keeps the records whose value is True, labels them with the ordinal of their row
  (`get_list_index`), re-packs the filtered table with `pack_sorted_df_into_struct` and aligns the
  packed column to the rows `0..n-1`.  The theorems below are about exactly that pipeline, for
  every number of rows, every row length and every per-record outcome of the condition.
-/
import NPModel.Spec.Frame
import NPModel.Refine.QueryRows
import NPModel.Refine.SamplesFrame
namespace NP.C07
open NP
variable {α : Type}

/-- **Filtering inside every row.**  `lists` are the per-row lists of one field (a missing or
    empty row contributes `[]`), `masks` the per-record outcomes of the condition, row by row.
    After filtering the flat view and re-packing by the ordinal index:
    (1) the packed rows are exactly the non-empty filtered rows, in row order — so rows keep their
        order and no record moves to another row;
    (2) the packed index holds exactly the ordinals of the rows that keep at least one record — a
        row left with no record is absent and becomes missing when the column is aligned;
    (3) for every row the records labelled with its ordinal are the records of that row the
        condition keeps, in their original order. -/
theorem query_filters_inside_rows (masks : List (List Bool)) (lists : List (List α))
    (h : All2 (fun m l => m.length = l.length) masks lists) :
    let keep := masks.flatten
    let ords := repeatEach (List.range lists.length) (lists.map List.length)
    let ords' := filterBy keep ords
    let flat' := filterBy keep lists.flatten
    segs (packOffsets ords') flat' = (nonemptyRuns (rowRuns 0 masks lists)).map (·.2) ∧
    ((packOffsets ords').dropLast).map (fun o => ords'.getD o 0) = (nonemptyRuns (rowRuns 0 masks lists)).map (·.1) ∧
    ∀ i m l, masks[i]? = some m → lists[i]? = some l → valsOfLabel i ords' flat' = filterBy m l :=
  repack_filtered masks lists h

/-- All fields of a nest are filtered by the same mask and packed with the same offsets, so whole
    records stay together: the offsets depend on the ordinals and the mask only, not on the
    field's values. -/
theorem same_offsets_for_every_field (masks : List (List Bool)) (lists₁ : List (List α)) (lists₂ : List (List α))
    (hlen : lists₁.map List.length = lists₂.map List.length) :
    let keep := masks.flatten
    packOffsets (filterBy keep (repeatEach (List.range lists₁.length) (lists₁.map List.length)))
      = packOffsets (filterBy keep (repeatEach (List.range lists₂.length) (lists₂.map List.length))) := by
  intro keep
  have : lists₁.length = lists₂.length := by simpa using congrArg List.length hlen
  rw [hlen, this]

/-- A condition mixing layers is refused before anything is evaluated. -/
theorem mixed_layers_refused (F : NFrame Cell) (e : Expr) (h : e.layers.length > 1) :
    F.query e = .error .valueError := by
  rw [NFrame.query, if_pos h]
  rfl

/-- The specification of the property on one row, as used by the correspondence oracle:
    keeping no record makes the row missing, otherwise every field is filtered by the same mask. -/
theorem spec_row_missing_iff (keep : Table α → Nat → Bool) (t : Table α) :
    (Spec.filterRow keep (some t)).isNone = !((List.range (Spec.Table.nrec t)).map (keep t)).any id := by
  show (if ((List.range (Spec.Table.nrec t)).map (keep t)).any id = true then some _ else none).isNone = _
  cases ((List.range (Spec.Table.nrec t)).map (keep t)).any id <;> rfl

/-- **The re-packing step of the frame, row by row** (`_set_filtered_flat_df`, the common last step
    of `query`, `dropna` and `sort_values` on a nested layer): for a frame of `n` rows and the
    records each row keeps (column-major per-row lists of common lengths, indexed by the row
    ordinals), the implementation model — packer, label lookup of the ordinals, `take` with
    `allow_fill` — succeeds and the frame's nested column becomes exactly those per-row tables:
    a row that keeps no record is MISSING, every other row holds its kept records in order, for
    every field at once; rows are never merged, moved or reordered (row `i` of the result is
    built from row `i` of the input only).  Any number of rows, fields and records. -/
theorem repack_step_row_by_row (F : NFrame α) (nest : String) (cols : List (String × String × List (List α)))
    (lens : List Nat) (hn : lens.length = F.index.length) (hcols : ∀ c ∈ cols, c.2.2.map List.length = lens)
    (hne : cols ≠ []) :
    ∃ col, F.setFilteredFlatDf nest (ordFlat cols lens) = .ok (F.setCol nest (.nest col)) ∧
      col.rows = repackedRows cols lens :=
  let ⟨col, h1, h2, _⟩ := setFilteredFlatDf_rows nest hn hcols hne
  ⟨col, h1, h2⟩

/-- **Filtering inside every row, at the level of the frame**: for any per-record outcomes of a
    condition (`masks`, row by row), filtering the ordinal flat table by the flattened mask and
    re-packing through `_set_filtered_flat_df` leaves in row `i` exactly the records of row `i`
    whose mask is set — original order, all fields by the same mask — and makes the row missing
    when none is kept.  (What `query` does after evaluating the condition; `dropna` with the
    mask "record has no null in the subset".) -/
theorem query_filters_rows_of_the_frame (F : NFrame α) (nest : String)
    (cols : List (String × String × List (List α))) (lens : List Nat) (masks : List (List Bool))
    (hn : lens.length = F.index.length) (hcols : ∀ c ∈ cols, c.2.2.map List.length = lens)
    (hmasks : All2 (fun m n => m.length = n) masks lens) (hne : cols ≠ []) :
    ∃ col, F.setFilteredFlatDf nest ((ordFlat cols lens).filterRows masks.flatten) = .ok (F.setCol nest (.nest col)) ∧
      col.rows = repackedRows (cols.map fun c => (c.1, c.2.1, filterRowsBy masks c.2.2))
        (masks.map fun m => (m.filter id).length) :=
  let ⟨col, h1, h2, _⟩ := filter_then_repack nest hn hcols hmasks hne
  ⟨col, h1, h2⟩

/-- **`query` on a nested layer, end to end through the implementation model**
    (`NFrame.query` = flat view with the ordinal index → the condition on every record →
    filtered flat table → packer → alignment with `take(allow_fill)`), for every frame whose
    nested column is stored cleanly (`PCol.Clean`; any number of chunks, any slice offsets), every
    condition over that layer only and every outcome `vals` of evaluating it record by record:
    the query succeeds and replaces ONLY that column; row `i` of it holds exactly the records of
    row `i` whose outcome is `True`, in their original order, every field filtered by the same
    mask; a row left without records is missing; the frame keeps all its rows in place. -/
theorem query_nested_end_to_end (F : NFrame Cell) (e : Expr) (nest : String) (c : PCol Cell)
    (hl : e.layers = [some nest]) (hnc : F.nestedColumns.contains nest = true)
    (hc : F.nest? nest = .ok c) (h : c.Clean) (hch : c.chunks ≠ []) (hidx : F.index.length = c.len)
    (vals : List Cell)
    (hev : evalAll (ordFlat (colLists c) (c.rows.map Row.len)).len
      (recordLookup (ordFlat (colLists c) (c.rows.map Row.len)) nest) e = .ok vals) :
    let masks := Spec.splitBy (c.rows.map Row.len) (vals.map fun v => v == some (.bool true))
    ∃ col, F.query e = .ok (F.setCol nest (.nest col)) ∧
      col.rows = repackedRows ((colLists c).map fun c' => (c'.1, c'.2.1, filterRowsBy masks c'.2.2))
        (masks.map fun m => (m.filter id).length) ∧
      col.rows.length = F.index.length :=
  query_nested_rows hl hnc hc h hch hidx hev

/-- non-vacuity of `query_nested_end_to_end`: the sample frame (two chunks, the first a slice into
    a larger buffer, an empty row) and the condition `n.a > 2` meet every hypothesis; the outcome on
    the three records is `[False, True, True]` -/
example : Samples.qexpr.layers = [some "n"] ∧ Samples.qframe.nestedColumns.contains "n" = true ∧
    Samples.qframe.nest? "n" = .ok Samples.qcol ∧ Samples.qcol.chunks ≠ [] ∧
    Samples.qframe.index.length = Samples.qcol.len ∧
    evalAll (ordFlat (colLists Samples.qcol) (Samples.qcol.rows.map Row.len)).len
      (recordLookup (ordFlat (colLists Samples.qcol) (Samples.qcol.rows.map Row.len)) "n") Samples.qexpr
      = .ok [some (.bool false), some (.bool true), some (.bool true)] := by
  decide +kernel

example : Samples.qcol.Clean := by decide +kernel

/-- non-vacuity of `repack_step_row_by_row`: three rows keeping 2, 0 and 1 records of two fields -/
example :
    let cols : List (String × String × List (List Nat)) :=
      [("a", "int64", [[1, 2], [], [3]]), ("b", "int64", [[7, 8], [], [9]])]
    (∀ c ∈ cols, c.2.2.map List.length = [2, 0, 1]) ∧
    repackedRows cols [2, 0, 1] = [some [("a", [1, 2]), ("b", [7, 8])], none, some [("a", [3]), ("b", [9])]] := by
  decide +kernel

/-- `query_filters_inside_rows` computed: only row 0 keeps records, rows 1 and 2 leave no run -/
example :
    let masks := [[true, false, true], [], [false]]
    let lists := [[10, 11, 12], [], [13]]
    segs (packOffsets (filterBy masks.flatten (repeatEach (List.range 3) (lists.map List.length))))
      (filterBy masks.flatten lists.flatten) = [[10, 12]] := by decide +kernel

end NP.C07
