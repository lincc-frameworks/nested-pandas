/-
  C15 — Operations do not mutate their inputs; copies are isolated.
  About the sharing model NPModel.State.Heap.
-/
import NPModel.Refine.StateLemmas
namespace NP.C15
open NP.State
variable {V : Type}

/-- **An in-place array operation changes only the objects that refer to that array object.**
    Every object that does not refer to the written cell observes exactly what it observed
    before. -/
theorem write_changes_only_referrers (h : Heap V) (c : Nat) (v : V) (o : ObjId) (hn : c ∉ h.refs o) :
    (h.step (.writeCell c v)).observe o = h.observe o := by
  refine List.map_congr_left fun c' hc' => ?_
  have hne : c' ≠ c := fun e => hn (e ▸ hc')
  exact congrArg (Option.map (·.2)) (find_setCell_other hne)

/-- **An operation that returns a new object, an in-place frame operation and a deep copy leave
    every other object observably unchanged** (they only allocate). -/
theorem allocation_leaves_others (h : Heap V) (hw : h.WF) (o o' : ObjId) (vals : List V) (hne : o' ≠ o) :
    (h.step (.newObj o vals)).observe o' = h.observe o' ∧ (h.step (.rebind o vals)).observe o' = h.observe o' :=
  ⟨allocFor_observe hw hne, allocFor_observe hw hne⟩

theorem deepcopy_leaves_others (h : Heap V) (hw : h.WF) (src dst o' : ObjId) (hne : o' ≠ dst) :
    (h.step (.deepCopy src dst)).observe o' = h.observe o' :=
  allocFor_observe hw hne

/-- **After a deep copy the two objects share no array object**: every cell of the copy is
    fresh, so (by `write_changes_only_referrers`) no later in-place array operation on either is
    visible through the other. -/
theorem deepcopy_disjoint (h : Heap V) (hw : h.WF) (src dst o' : ObjId) (hne : o' ≠ dst) :
    ∀ c ∈ (h.step (.deepCopy src dst)).refs dst, c ∉ (h.step (.deepCopy src dst)).refs o' := by
  intro c hc hc'
  -- the copy's cells are fresh, the other object's are below the allocator
  rw [show h.step (.deepCopy src dst) = allocFor h dst ((h.observe src).filterMap id) from rfl] at hc hc'
  rw [allocFor_refs hne] at hc'
  exact Nat.lt_irrefl _ (Nat.lt_of_lt_of_le (refs_lt hw c hc') (allocFor_refs_fresh c hc))

/-- the operation does not re-point object `o` and writes none of the cells in `cs` -/
def Spares (o : ObjId) (cs : List Nat) : HOp V → Prop
  | .writeCell c _ => c ∉ cs
  | .rebind o' _ | .newObj o' _ => o' ≠ o
  | .deepCopy _ dst => dst ≠ o

theorem step_WF (h : Heap V) (hw : h.WF) (op : HOp V) : (h.step op).WF := by
  cases op with
  | writeCell c v =>
    refine ⟨fun p hp => ?_, hw.2⟩
    obtain ⟨q, hq, rfl⟩ := List.mem_map.mp hp
    split
    · next e => exact beq_iff_eq.mp e ▸ hw.1 q hq
    · exact hw.1 q hq
  | _ => exact allocFor_WF hw

theorem refs_step (h : Heap V) (o : ObjId) (op : HOp V) (hs : Spares o (h.refs o) op) :
    (h.step op).refs o = h.refs o := by
  cases op with
  | writeCell c v => rfl
  | _ => exact allocFor_refs (Ne.symm hs)

theorem observe_step (h : Heap V) (hw : h.WF) (o : ObjId) (op : HOp V) (hs : Spares o (h.refs o) op) :
    (h.step op).observe o = h.observe o := by
  cases op with
  | writeCell c v => exact write_changes_only_referrers h c v o hs
  | _ => exact allocFor_observe hw (Ne.symm hs)

/-- **Non-interference over whole histories**: an object observes exactly what it observed at
    the start after ANY interleaving of operations on related objects, as long as none of them
    re-points it or writes one of its own array objects — deep copies, new results, in-place frame
    operations on others and in-place array operations on arrays it does not refer to.
    Histories of any length. -/
theorem noninterference (o : ObjId) (ops : List (HOp V)) :
    ∀ (h : Heap V), h.WF → (∀ op ∈ ops, Spares o (h.refs o) op) → (h.run ops).observe o = h.observe o := by
  induction ops with
  | nil => intro h _ _; rfl
  | cons op rest ih =>
    intro h hw hs
    have h1 := hs op List.mem_cons_self
    have hrest : ∀ op' ∈ rest, Spares o ((h.step op).refs o) op' := fun op' hop' =>
      refs_step h o op h1 ▸ hs op' (List.mem_cons_of_mem _ hop')
    exact (ih (h.step op) (step_WF h hw op) hrest).trans (observe_step h hw o op h1)

/-- non-vacuity: a frame `1` with two array objects, deep-copied to `2`, then an in-place edit of
    the copy's first array: the original observes what it observed before -/
example :
    let h0 : Heap Nat := { cells := [(0, 10), (1, 11)], objs := [(1, [0, 1])], next := 2 }
    let h1 := h0.run [.deepCopy 1 2, .writeCell 2 99]
    h1.observe 1 = [some 10, some 11] ∧ h1.observe 2 = [some 99, some 11] := by
  decide +kernel

end NP.C15
