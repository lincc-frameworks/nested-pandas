/-
  C17 — The nested dtype is a faithful, stable description of the column.
-/
import NPModel.Refine.DtypeParse
import NPModel.Refine.Fields
namespace NP.C17
open NP
variable {τ : Type}

/-- **The string name parses back to an equal dtype** — for every list of fields (any number,
    any order) whose names and rendered element types do not contain the separators `", "` and
    `": "`, whose names are distinct, and whose rendered types are aliases of themselves
    (true of every non-parametric Arrow type; checked exhaustively at run time). -/
theorem name_parses_back (render : τ → Str) (alias? : Str → Option τ) (d : List (Str × τ))
    (h : NameOK render alias? d) : constructFromString alias? (dtypeName render d) = .ok d :=
  parse_name render alias? d h

/-- Hence the name is a faithful description: two dtypes with the same name are the same dtype
    (same fields, same types, same order). -/
theorem name_injective (render : τ → Str) (alias? : Str → Option τ) (d₁ d₂ : List (Str × τ))
    (h₁ : NameOK render alias? d₁) (h₂ : NameOK render alias? d₂)
    (h : dtypeName render d₁ = dtypeName render d₂) : d₁ = d₂ := by
  have e₁ := parse_name render alias? d₁ h₁
  have e₂ := parse_name render alias? d₂ h₂
  rw [h, e₂] at e₁
  exact (Except.ok.inj e₁).symm

/-- **Parametric element types are refused, never mis-parsed**: a field whose rendered type is
    not an alias makes the parser fail on that field (with the parser's only error, TypeError). -/
theorem unknown_type_refused (render : τ → Str) (alias? : Str → Option τ) (f : Str × τ)
    (hn : noPair ':' ' ' f.1 = true) (ha : alias? (render f.2) = none) :
    parseField alias? (fieldString render f) = .error .typeError := by
  rw [parseField_fieldString_eq hn, ha]

/-- … and whatever a field parses to is what the alias table says about the text between the
    brackets: the parser has no other source of types (soundness of every successful field parse). -/
theorem field_parse_sound (alias? : Str → Option τ) (s name : Str) (t : τ) (h : parseField alias? s = .ok (name, t)) :
    ∃ valueType, alias? valueType = some t := by
  unfold parseField at h
  split at h
  · cases h
  · split at h
    · cases h
    · split at h
      · cases h
      · next valueType _ =>
        split at h
        · next hal => cases h; exact ⟨valueType, hal⟩
        · cases h

theorem only_type_errors (e : ParseErr) : e = .typeError := by cases e; rfl

/-- After any field edit the declared dtype is the type of the stored data: `set_list_field`
    re-derives the dtype from the new storage, whose fields are the old ones with `f` replaced in
    place or appended. -/
theorem declared_dtype_after_field_edit {α : Type} {c c' : PCol α} {f ty : String} {value : PList α} {keep : Bool}
    (h : NArr.setListField c f ty value keep = .ok c') :
    c'.ty = (if c.ty.any (·.1 == f) then c.ty.map (fun p => if p.1 == f then (f, ty) else p) else c.ty ++ [(f, ty)]) :=
  congrArg PCol.ty (setListField_inv h).1

/-- non-vacuity: `nested<t: [double], flux x: [int64]>` -/
example : NameOK (fun (t : Bool) => if t then "double".toList else "int64".toList)
    (fun s => if s = "double".toList then some true else if s = "int64".toList then some false else none)
    [("t".toList, true), ("flux x".toList, false)] := by
  constructor <;> decide +kernel

end NP.C17
