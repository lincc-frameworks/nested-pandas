/-
  C11 — Sorting by a nested field permutes records inside each row only.

  The implementation (core.py `sort_values`, nested branch) takes the flat view with the ordinal
  index, sorts it with `by = [ordinal] ++ keys` (pandas lexsort: one permutation of the positions
  applied to every column) and re-packs with `_set_filtered_flat_df`.
-/
import NPModel.Refine.SortNested
import NPModel.Refine.CellOrder
namespace NP.C11
open NP
variable {α β : Type}

/-- **No record is lost, duplicated or moved to another row; whole records move together.**
    For ANY comparator, the positions returned by the sort are a permutation of the flat
    positions, and for every row ordinal `k` the records labelled `k` afterwards are a permutation
    of the records labelled `k` before (`g p` = the whole record at flat position `p`, `f p` = its
    ordinal).  No assumption on the keys, directions, ties, nulls or NaN. -/
theorem sort_keeps_records_in_rows [BEq β] (le : Nat → Nat → Bool) (N : Nat) (f : Nat → β) (g : Nat → α) (k : β) :
    let perm := (List.range N).mergeSort le
    (valsOfLabel k (perm.map f) (perm.map g)).Perm (valsOfLabel k ((List.range N).map f) ((List.range N).map g)) := by
  intro perm
  exact reorder_keeps_records_in_rows perm N (List.mergeSort_perm _ _) f g k

/-- **Rows, labels and order of rows are untouched**: when the comparator compares ordinals first
    (transitive and total, as a lexicographic order on a linear pre-order is), the reordered
    ordinal index is non-decreasing … -/
theorem sorted_ordinals_nondecreasing (le : Nat → Nat → Bool) (ord : Nat → Nat)
    (trans : ∀ a b c, le a b → le b c → le a c) (total : ∀ a b, le a b || le b a)
    (hle : ∀ a b, le a b = true → ord a ≤ ord b) (N : Nat) :
    (((List.range N).mergeSort le).map ord).Pairwise (· ≤ ·) := by
  rw [List.pairwise_map]
  exact List.Pairwise.imp (fun h => hle _ _ h) (List.pairwise_mergeSort trans total (List.range N))

/-- … and a table whose ordinal index is non-decreasing packs, row by row, into exactly the
    records labelled with the row's ordinal (in the order the sort left them); the packed rows
    are the non-empty groups in ordinal order.  So every row's new table consists of its own
    records only. -/
theorem sorted_table_packs_by_ordinal (ps : List (Nat × α)) (hs : (ps.map (·.1)).Pairwise (· ≤ ·))
    (k : Nat) (l : List α) (hm : (k, l) ∈ toRuns ps) :
    valsOfLabel k (ps.map (·.1)) (ps.map (·.2)) = l ∧
    segs (packOffsets (ps.map (·.1))) (ps.map (·.2)) = (nonemptyRuns (toRuns ps)).map (·.2) := by
  have h := packed_row_of_sorted (fun a b : Nat => decide (a ≤ b))
    (fun a b h1 h2 => by simp only [decide_eq_true_eq] at *; omega)
    ps (List.Pairwise.imp (fun h => by simpa using h) hs) hm
  exact ⟨h.1, h.2.1⟩

/-- **Ordered by the requested keys**: within the sorted positions every earlier position is
    `le` every later one (the lexicographic comparator of `sort_values`), under the same
    transitivity/totality hypothesis. -/
theorem sorted_positions_ordered (le : Nat → Nat → Bool)
    (trans : ∀ a b c, le a b → le b c → le a c) (total : ∀ a b, le a b || le b a) (N : Nat) :
    ((List.range N).mergeSort le).Pairwise (fun a b => le a b = true) :=
  List.pairwise_mergeSort trans total (List.range N)

/-- non-vacuity: the hypotheses on the comparator are satisfiable — a comparator that looks at
    the ordinal first and at a key afterwards (here both read off the position) -/
example : ∀ N, (((List.range N).mergeSort fun a b => decide (a / 2 < b / 2 ∨ (a / 2 = b / 2 ∧ a % 2 ≥ b % 2))).map (· / 2)).Pairwise (· ≤ ·) := by
  intro N
  apply sorted_ordinals_nondecreasing _ (· / 2)
  -- a lexicographic order on pairs, whatever the pairs are
  · intro a b c h1 h2
    simp only [decide_eq_true_eq] at *
    generalize a / 2 = a₁, a % 2 = a₂, b / 2 = b₁, b % 2 = b₂, c / 2 = c₁, c % 2 = c₂ at *
    omega
  · intro a b
    simp only [Bool.or_eq_true, decide_eq_true_eq]
    generalize a / 2 = a₁, a % 2 = a₂, b / 2 = b₁, b % 2 = b₂
    omega
  · intro a b h
    simp only [decide_eq_true_eq] at h
    generalize a / 2 = a₁, b / 2 = b₁ at *
    omega

/-- **Sorted inside the rows, re-packed into the same rows**: after the flat view has been
    reordered inside every row (the row ordinal is the leading sort key, so the ordinal index is
    unchanged and every row keeps its number of records), `_set_filtered_flat_df` puts into row
    `i` exactly the reordered records of row `i`, for every field at once; rows are never merged
    or moved, the number of rows is unchanged; a row without records comes back missing. -/
theorem sorted_rows_repacked (F : NFrame α) (nest : String) (sorted : List (String × String × List (List α)))
    (lens : List Nat) (hn : lens.length = F.index.length) (hcols : ∀ c ∈ sorted, c.2.2.map List.length = lens)
    (hne : sorted ≠ []) :
    ∃ col, F.setFilteredFlatDf nest (ordFlat sorted lens) = .ok (F.setCol nest (.nest col)) ∧
      col.rows = repackedRows sorted lens ∧ col.rows.length = F.index.length :=
  setFilteredFlatDf_rows nest hn hcols hne

/-- **The comparator of `sort_values` is a total preorder** whenever the cells of every key column
    carry a strict weak order (`KeysOrdered`: `<` on numbers with NaN on top, strings, booleans,
    timestamps — `cell_order_is_strict_weak` for the order the model is run with): ordinal first, then the keys lexicographically,
    each with its own direction, nulls placed by `na_position` independently of the direction.
    Hence the stable merge sort really returns a sorted permutation. -/
theorem comparator_is_total_preorder [Inhabited α] (lt : α → α → Bool) (isNull : α → Bool) (naFirst : Bool)
    (ords : List Label) (kcols : List (Bool × List α)) (h : KeysOrdered lt isNull kcols) :
    (∀ a b, (sortLe lt isNull naFirst ords kcols a b || sortLe lt isNull naFirst ords kcols b a) = true) ∧
    (∀ a b c, sortLe lt isNull naFirst ords kcols a b = true → sortLe lt isNull naFirst ords kcols b c = true →
      sortLe lt isNull naFirst ords kcols a c = true) :=
  ⟨sortLe_total h, sortLe_trans h⟩

/-- **`sort_values` on a nested layer, end to end** (`NP.NFrame.sortNested`, the model checked
    against the code).  For every frame whose nested column `nest` is stored cleanly (any chunking
    and offsets), every list of keys naming fields of that column, any directions and null
    placement, and any comparison that is a strict weak order on the cells of every key column: the call succeeds and replaces only that
    column; the number of rows is unchanged; and row `i` of the result is missing when row `i` had
    no records, and otherwise is — for EVERY field at once — the old lists of row `i` read through
    ONE permutation `σ` of `0..len-1`: whole records move together, none is lost, duplicated or
    taken from another row; and `σ` is ordered by the requested keys, directions and null
    placement (`lexLe` over the key columns of the row's records). -/
theorem sort_nested_permutes_rows [Inhabited α] (lt : α → α → Bool) (isNull : α → Bool)
    (F : NFrame α) (nest : String) (c : PCol α) (hc : F.nest? nest = .ok c) (hclean : c.Clean)
    (hch : c.chunks ≠ []) (hidx : F.index.length = c.len) (keys : List (String × Bool))
    (hkeys : ∀ k ∈ keys, c.ty.any (·.1 == k.1) = true) (naFirst : Bool)
    (hlt : KeysOrdered lt isNull (sortKeyCols (ordFlat (colLists c) (c.rows.map Row.len)) keys)) :
    let lens := c.rows.map Row.len
    let kcols := sortKeyCols (ordFlat (colLists c) lens) keys
    ∃ col : PCol α, F.sortNested lt isNull nest keys naFirst = .ok (F.setCol nest (.nest col)) ∧
      col.rows.length = F.index.length ∧
      ∀ i, i < F.index.length → ∃ σ : List Nat, σ.Perm (List.range (lens.getD i 0)) ∧
        col.rows.getD i none = (if lens.getD i 0 = 0 then none else
          some ((colLists c).map fun f => (f.1, σ.map fun q => (f.2.2.getD i []).getD q default))) ∧
        σ.Pairwise (fun q r => lexLe lt isNull naFirst
          (sortKeysAt kcols (rowStart lens i + q) (rowStart lens i + r)) = true) := by
  intro lens kcols
  obtain ⟨blocks, col, hok, hrows, hblens, hperm, hsorted, _⟩ :=
    sortNested_rows lt isNull F nest c hc hclean hch hidx keys hkeys naFirst hlt
  have hn : lens.length = F.index.length := rowLens_length hidx
  refine ⟨col, hok, by rw [hrows, repackedRows_length, hn], fun i hi => ?_⟩
  have hi' : i < lens.length := hn ▸ hi
  -- block `i` is a permutation of the extent of row `i`: the row's start plus a permutation `σ` of `0..len-1`
  obtain ⟨σ, hσ, hb⟩ := exists_perm_range_of_perm_range' (ordinal_positions lens i hi' ▸ hperm i hi')
  refine ⟨σ, hσ, ?_, ?_⟩
  · rw [hrows, repackedRows_getD hi', List.map_map]
    refine congrArg (fun r => if lens.getD i 0 = 0 then none else some r) (List.map_congr_left fun f hf => ?_)
    have hflen : f.2.2.map List.length = lens := colLists_lengths hclean f hf
    refine congrArg (Prod.mk f.1)
      ((getD_map (fun b : List Nat => b.map fun p => f.2.2.flatten.getD p default) blocks i []).trans ?_)
    rw [hb, List.map_map]
    refine List.map_congr_left fun q hq => hflen ▸ flatten_getD_block default f.2.2 i q ?_
    rw [← getD_map List.length, hflen]
    exact List.mem_range.mp (hσ.mem_iff.mp hq)
  · have hbi : i < blocks.length := by rwa [← List.length_map (f := List.length), hblens]
    have := hsorted _ (getD_mem hbi [])
    rwa [hb, List.pairwise_map] at this

/-- the same in terms of flat positions: the sort permutation cut into the rows' extents -/
theorem sort_nested_blocks [Inhabited α] (lt : α → α → Bool) (isNull : α → Bool)
    (F : NFrame α) (nest : String) (c : PCol α) (hc : F.nest? nest = .ok c) (hclean : c.Clean)
    (hch : c.chunks ≠ []) (hidx : F.index.length = c.len) (keys : List (String × Bool))
    (hkeys : ∀ k ∈ keys, c.ty.any (·.1 == k.1) = true) (naFirst : Bool)
    (hlt : KeysOrdered lt isNull (sortKeyCols (ordFlat (colLists c) (c.rows.map Row.len)) keys)) :
    let lens := c.rows.map Row.len
    let flat := ordFlat (colLists c) lens
    let kcols := sortKeyCols flat keys
    ∃ (blocks : List (List Nat)) (col : PCol α),
      F.sortNested lt isNull nest keys naFirst = .ok (F.setCol nest (.nest col)) ∧
      col.rows = repackedRows ((colLists c).map fun f => (f.1, f.2.1,
        blocks.map fun b => b.map fun p => f.2.2.flatten.getD p default)) lens ∧
      blocks.map List.length = lens ∧
      (∀ i, i < lens.length → (blocks.getD i []).Perm
        ((List.range flat.index.length).filter fun p => flat.index.getD p (.int 0) == Label.int (i : Int))) ∧
      (∀ b ∈ blocks, b.Pairwise fun p q => lexLe lt isNull naFirst (sortKeysAt kcols p q) = true) ∧
      blocks = Spec.splitBy lens (sortPerm lt isNull naFirst flat.index kcols) :=
  sortNested_rows lt isNull F nest c hc hclean hch hidx keys hkeys naFirst hlt

/-- **The hypothesis `KeysOrdered` holds of the order the model is run with** (`cellLt`: numbers by
    value with NaN above every number, strings by code points, booleans, timestamps; nulls never
    reach it) for key columns that each hold one kind of value — the element types of the
    property list — nulls and NaN included. -/
theorem cell_order_is_strict_weak (kcols : List (Bool × List Cell)) (h : ∀ k ∈ kcols, ColOneKind k.2) :
    KeysOrdered cellLt cellIsNull kcols := by
  intro k hk
  obtain ⟨kind, hkind⟩ := h k hk
  refine cellLt_strictWeakOn kind fun v ⟨hdom, hnn⟩ => ?_
  cases v with
  | none => cases hnn
  | some x => exact ⟨x, rfl, hdom.elim (hkind x) fun hdef => nomatch hdef⟩

/-- non-vacuity of `cell_order_is_strict_weak`: a numeric column with a null and a NaN, a string column with a null -/
example : ColOneKind [some (.flt 3), none, some .nan, some (.int 2)] ∧ ColOneKind [some (.str "b"), none, some (.str "a")] := by
  constructor
  · refine ⟨0, ?_⟩
    intro x hx
    simp at hx
    rcases hx with rfl | rfl | rfl <;> rfl
  · refine ⟨1, ?_⟩
    intro x hx
    simp at hx
    rcases hx with rfl | rfl <;> rfl

/-- a strict weak order on all values, which gives `KeysOrdered` for any key columns (`KeysOrdered.of_global`) -/
example : StrictWeak (fun (a b : Nat) => decide (a < b)) :=
  ⟨fun a b h => by simp only [decide_eq_true_eq, decide_eq_false_iff_not] at *; omega,
   fun a b c h1 h2 => by simp only [decide_eq_false_iff_not] at *; omega⟩

end NP.C11
