/-
  C16 — Results depend only on data and arguments, not on what ran before.
  About the state model NPModel.State.Aliases.
-/
import NPModel.Refine.StateLemmas
namespace NP.C16
open NP.State
variable {D R T : Type}

/-- **The invariant**: after any public call — successful or raising — the alias attribute is
    clear, provided it was clear before (and `eval` clears it whatever it was). -/
theorem aliases_clear_after_call (f : Frame D T) (op : Op D R T) (h : f.aliases = none) :
    (call f op).2.aliases = none := by
  rw [call_of_clear h]
  split
  · rfl
  · exact h

theorem eval_always_clears (f : Frame D T) (op : Op D R T) (hk : op.kind = .eval) : (call f op).2.aliases = none := by
  unfold call
  rw [hk]
  simp only
  split <;> rfl

theorem aliases_clear_after_history (f : Frame D T) (ops : List (Op D R T)) (h : f.aliases = none) :
    (after f ops).aliases = none := by
  induction ops generalizing f with
  | nil => exact h
  | cons op rest ih => exact ih _ (aliases_clear_after_call f op h)

/-- **An operation that raises leaves the frame exactly as it was.** -/
theorem failing_call_no_effect (f : Frame D T) (op : Op D R T) (h : f.aliases = none) (hr : (call f op).1 = none) :
    (call f op).2 = f := by
  rw [call_of_clear h] at hr ⊢
  split at hr
  · cases hr
  · rfl

theorem readonly_call_no_effect (f : Frame D T) (op : Op D R T) (h : f.aliases = none) (hi : op.inplace = false) :
    (call f op).2 = f := by
  rw [call_of_clear h, hi]
  split
  · cases f
    cases h
    rfl
  · rfl

/-- **History independence**: after any prefix of read-only or failing operations the frame is the
    frame one started with, so every later operation has the same outcome and the same effect as
    on a fresh equal frame.  Prefixes of any length. -/
theorem history_independence (f : Frame D T) (h : f.aliases = none) (prefix_ : List (Op D R T))
    (hh : ∀ g : Frame D T, g.aliases = none → ∀ op ∈ prefix_, Harmless g op) (op : Op D R T) :
    call (after f prefix_) op = call f op := by
  have key : after f prefix_ = f := by
    induction prefix_ generalizing f with
    | nil => rfl
    | cons p rest ih =>
      have e : (call f p).2 = f :=
        (hh f h p List.mem_cons_self).elim (failing_call_no_effect f p h) (readonly_call_no_effect f p h)
      show after (call f p).2 rest = f
      rw [e]
      exact ih f h fun g hg o ho => hh g hg o (List.mem_cons_of_mem _ ho)
  rw [key]

/-- Without the `finally` the invariant fails: an `eval` that clears the attribute only on success
    leaves its table behind when it raises (the defect `fixed: property=C16` of KNOWN_FINDINGS.txt;
    proved by evaluation). -/
example :
    let callBefore : Frame Nat Nat → Op Nat Nat Nat → Option Nat × Frame Nat Nat := fun f op =>
      match op.sem f.data (some op.table) with
      | some (r, _) => (some r, { f with aliases := none })
      | none => (none, { f with aliases := some op.table })     -- no try/finally
    (callBefore ⟨0, none⟩ { kind := .eval, table := 7, sem := fun _ _ => none, inplace := false }).2.aliases = some 7 := by
  decide +kernel

example :
    let failingEval : Op Nat Nat Nat := { kind := .eval, table := 7, sem := fun _ _ => none, inplace := false }
    let probe : Op Nat Nat Nat := { kind := .plain, table := 0, sem := fun d t => some (d + t.getD 0, d), inplace := false }
    call (after ⟨5, none⟩ [failingEval]) probe = call ⟨5, none⟩ probe ∧ (call ⟨5, none⟩ failingEval).1 = none := by
  intro failingEval probe
  exact ⟨rfl, rfl⟩

end NP.C16
