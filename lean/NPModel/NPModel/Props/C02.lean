/-
  C02 — Packing and unpacking are lossless inverses.
-/
import NPModel.Refine.Samples
import NPModel.Refine.JoinRows
import NPModel.Refine.ViewTrips
namespace NP.C02
open NP
variable {α : Type}

/-- Packing per-row lists (what `pack_lists`, `pack_seq`, `pa.array` build: the canonical layout)
    and reading the rows back gives exactly the lists that were packed — nulls, order and
    multiplicities included, for any number of rows of any lengths. -/
theorem pack_lists_then_rows (rows : List (Option (List α))) : (PList.ofRows rows).rows = rows :=
  PList.ofRows_rows rows

/-- The zero-copy packing of a sorted flat column (`ListArray.from_arrays(offsets, flat)` in
    `view_sorted_series_as_list_array`) loses and invents nothing: concatenating the packed rows
    gives back the flat column, whenever the offsets start at 0, are non-decreasing and end at
    the column's length. -/
theorem pack_sorted_then_flatten (offs : List Nat) (vals : List α) (hm : monotone offs = true)
    (h0 : offs.headD 0 = 0) (hl : offs.getLast?.getD 0 = vals.length) :
    (segs offs vals).flatten = vals := by
  rw [segs_flatten hm (by omega), h0, hl]
  simp

theorem pack_sorted_row_lengths (offs : List Nat) (vals : List α) (hm : monotone offs = true)
    (hl : offs.getLast?.getD 0 ≤ vals.length) :
    (segs offs vals).map List.length = diffs offs :=
  segs_lengths hm hl

/-- Flattening then re-packing by the row lengths is the identity on the rows (the list view
    round trip): the canonical layout of the rows' lists has those lists as extents. -/
theorem flatten_then_pack (ls : List (List α)) :
    segs (offsetsFrom 0 (ls.map List.length)) ls.flatten = ls :=
  segs_canonical ls

/-- **pack_flat groups by label, ascending, keeping the original order inside each label.**
    `xs` are the (label, record) pairs of the flat table in their original order — in the model
    `pack_flat` sorts `index.zipIdx`, i.e. the records are the row positions, and every column is
    then read through the same sorted positions, so whole records stay together.
    For every packed row `(k, l)`: `l` is exactly the subsequence of records labelled `k` in the
    ORIGINAL table; the packed rows are the non-empty label groups in ascending label order and
    the packed index lists their (pairwise distinct) labels. -/
theorem pack_flat_groups_by_label (xs : List (Label × α)) (k : Label) (l : List α)
    (hm : (k, l) ∈ toRuns (sortedByLabel xs)) :
    let s := sortedByLabel xs
    l = valsOfLabel k (xs.map (·.1)) (xs.map (·.2)) ∧
    segs (packOffsets (s.map (·.1))) (s.map (·.2)) = (nonemptyRuns (toRuns s)).map (·.2) ∧
    ((packOffsets (s.map (·.1))).dropLast).map (fun o => (s.map (·.1)).getD o k) = (nonemptyRuns (toRuns s)).map (·.1) :=
  packFlat_rows xs k l hm

/-- flattening the packed column gives back the stably sorted table: the packed rows, concatenated,
    are the sorted records — nothing lost, duplicated or invented (and the sorted table is a
    permutation of the original). -/
theorem pack_flat_then_flatten (xs : List (Label × α)) :
    let s := sortedByLabel xs
    (segs (packOffsets (s.map (·.1))) (s.map (·.2))).flatten = s.map (·.2) ∧ s.Perm xs := by
  intro s
  have hd : ((toRuns s).map (·.1)).Pairwise (· ≠ ·) :=
    List.Pairwise.imp (fun h => h.2) (packFlat_index_strictly_ascending xs)
  have ⟨e1, e2⟩ := toRuns_labels_vals s
  refine ⟨?_, sortedByLabel_perm xs⟩
  rw [← e1, ← e2, packed_rows_are_runs _ hd, ← runVals_nonempty]

theorem pack_flat_labels_strictly_ascending (xs : List (Label × α)) :
    ((toRuns (sortedByLabel xs)).map (·.1)).Pairwise (fun a b => a.le b = true ∧ a ≠ b) :=
  packFlat_index_strictly_ascending xs

/-- **The packer of the implementation model is these list views**: on a flat table with a
    monotone index `pack_sorted_df_into_struct` succeeds; its index is the label found at each run
    offset, and its single chunk views every flat column through the SAME offsets
    (`packOffsets index`) — so the run-level theorems above (`pack_sorted_then_flatten`,
    `pack_flat_groups_by_label`, …) are statements about what this function returns, for every
    column at once, and whole records stay together. -/
theorem pack_sorted_df_is_list_views (df : FlatDF α) (hm : isMonotone df.index = true)
    (hc : ∀ col ∈ df.cols, df.index.length ≤ col.2.2.length) (hne : df.cols ≠ []) :
    packSortedDf df = .ok
      { index := ((packOffsets df.index).dropLast).map fun o => df.index.getD o (.int 0)
        col := { ty := df.cols.map fun col => (col.1, col.2.1)
                 chunks := [packedChunk (packOffsets df.index) df.cols] } } :=
  packSortedDf_ok df hm hc hne

/-- … and row `i` of that chunk is, field by field, the `i`-th extent of the flat column. -/
theorem packed_chunk_rows (offs : List Nat) (cols : List (String × String × List α)) :
    (packedChunk offs cols).rows = (List.range (offs.length - 1)).map fun i =>
      some (cols.map fun col => (col.1, (segs offs col.2.2).getD i [])) :=
  packedChunk_rows offs cols

/-- **Packing then flattening is the stable sort by label** (`NP.packFlat` then `NP.NSeries.toFlat`,
    the models of `pack_flat` and `.nest.to_flat()` checked against the code).  For ANY flat
    table with at least one column and pairwise distinct column names — any labels in any order,
    repeated or not, any number of records — `pack_flat` succeeds and `to_flat()` of the packed
    series is the table read through the stable sort permutation: the same records, cell for cell
    in every column, grouped by ascending label, original relative order kept inside every label.
    Nothing is lost, duplicated or invented (`stable_sort_is_permutation`). -/
theorem pack_then_flatten_is_stable_sort [Inhabited α] (df : FlatDF α) (hne : df.cols ≠ [])
    (hd : (df.cols.map (·.1)).Pairwise (· ≠ ·)) :
    ∃ packed, packFlat df = .ok packed ∧
      packed.toFlat none = .ok (df.reorder (stableSortPerm df.index) default) :=
  packFlat_toFlat df hne hd

/-- the positions the sorted table is read through are a permutation of `0..n-1` that reads the
    labels in non-decreasing order -/
theorem stable_sort_is_permutation (index : List Label) :
    (stableSortPerm index).Perm (List.range index.length) ∧
    ((stableSortPerm index).map fun i => index.getD i (.int 0)).Pairwise (fun a b => a.le b = true) := by
  constructor
  · rw [stableSortPerm_eq, ← zipIdx_snd]
    exact (sortedByLabel_perm _).map _
  · rw [reorder_index]
    exact sortedByLabel_sorted _

/-- non-vacuity of `pack_then_flatten_is_stable_sort`: two columns with distinct names -/
example : ([("t", "int64", [10, 11, 12]), ("u", "int64", [0, 1, 2])] : List (String × String × List Nat)) ≠ [] ∧
    (([("t", "int64", [10, 11, 12]), ("u", "int64", [0, 1, 2])] : List (String × String × List Nat)).map (·.1)).Pairwise (· ≠ ·) := by
  decide +kernel

/-- the canonical layout reads back as the rows it was built from: a null list and an empty list stay apart -/
example : (PList.ofRows [some [1, 2], none, some [], some [3]]).rows = [some [1, 2], none, some [], some [3]] := by
  decide +kernel

/-- **The list view round trip on the implementation model** (`to_lists` then `pack_lists`).  For
    every nested series on validated storage whose missing rows store nothing (`PCol.Clean`; any
    chunking, slice offsets and buffers), `to_lists()` succeeds, `pack_lists` accepts the frame of
    lists it returned, keeps the index and the field names, and row `i` of the re-packed column is
    present and holds, under every field name, the list that field has in row `i` of the original —
    no elements where that row was missing.  No value, null or order is lost or invented. -/
theorem list_view_round_trip (s : NSeries α) (h : s.col.Clean) (hne : s.col.chunks ≠ []) :
    ∃ df s', s.toLists none = .ok df ∧ packLists df.index df.asChunks true = .ok s' ∧
      s'.index = s.index ∧ s'.col.ty.map (·.1) = s.col.ty.map (·.1) ∧
      s'.col.rows = (List.range s.col.len).map fun i =>
        some (s.col.ty.map fun p => (p.1, (Spec.fieldLists s.col.rows p.1).getD i [])) :=
  toLists_packLists s h hne

/-- … and with distinct field names that says: every row that held a table comes back as the same
    table, every missing row as a row without elements (a table of empty lists). -/
theorem list_view_round_trip_rows (s : NSeries α) (h : s.col.Clean) (hne : s.col.chunks ≠ [])
    (hn : (s.col.ty.map (·.1)).Nodup) :
    ∃ df s', s.toLists none = .ok df ∧ packLists df.index df.asChunks true = .ok s' ∧
      s'.index = s.index ∧
      s'.col.rows = s.col.rows.map fun r => some (r.getD (s.col.ty.map fun p => (p.1, []))) :=
  toLists_packLists_rows s h hne hn

/-- **`pack_seq` stores what the dtype sees of every row it is offered** (`normRow`: the dtype's
    fields in dtype order, looked up by name) whenever each of them is rectangular — any number of
    rows, missing ones included. -/
theorem pack_seq_stores_the_rows (idx : List Label) (ty : List (String × String)) (rows : List (Row α))
    (hrect : ∀ r ∈ rows, Row.rect (normRow ty r) = true) :
    ∃ s, packSeq idx ty rows = .ok s ∧ s.index = idx ∧ s.col.ty = ty ∧ s.col.rows = rows.map (normRow ty) :=
  packSeq_rows idx ty rows hrect

/-- **The element view round trip on the implementation model** (`list(series)` then `pack` /
    `pack_seq` under the column's own dtype): for every validated column in any layout (well formed,
    null ⇒ empty extent; hidden child lists allowed — they are not part of the element view) with
    distinct field names, packing its per-row tables succeeds and gives back exactly the same rows,
    missing rows missing. -/
theorem element_view_round_trip (s : NSeries α) (hw : s.col.WF = true)
    (hne : ∀ ch ∈ s.col.chunks, ch.nullEmpty = true) (hv : s.col.validate = .ok ())
    (hn : (s.col.ty.map (·.1)).Nodup) :
    ∃ s', packSeq s.index s.col.ty (NArr.iter s.col) = .ok s' ∧ s'.index = s.index ∧ s'.col.ty = s.col.ty ∧
      s'.col.rows = s.col.rows :=
  iter_packSeq s hw hne hv hn

/-- **The list view round trip along the physical path** — `pack_lists(series.nest.to_lists())` as the
    code runs it: `to_lists` hands out, per field, the child list arrays of the chunks as they are (raw
    windows into the old buffers, the same chunking for every field); `pack_lists` finds equal chunk
    lengths, builds one struct per chunk position from those very arrays and validates.  On `Clean`
    storage (any chunking, offsets, buffers; field names need not be distinct) this succeeds, keeps the
    index and the declared fields, and chunk by chunk every present row comes back unchanged and every
    missing row as a table of empty lists. -/
theorem list_view_round_trip_physical (s : NSeries α) (h : s.col.Clean) (hne : s.col.chunks ≠ []) :
    ∃ s', s.relist = .ok s' ∧ s'.index = s.index ∧ s'.col.ty = s.col.ty ∧
      s'.col.rows = s.col.chunks.flatMap fun ch => ch.rows.map fun r => some (r.getD (emptyTable ch)) :=
  packLists_fieldChunks_rows s.index s.col h hne

/-- `pack_lists` on list columns that do NOT share their chunking (any number of columns, any chunkings,
    `n` lists each, equal list lengths row by row): the columns are combined, and the result is ONE chunk
    whose field `f` is the canonical re-encoding of column `f`'s lists, every row present — the same rows
    as for equally chunked columns, so the chunking of the list columns is not observable. -/
theorem pack_lists_combines_other_chunkings (idx : List Label) (f0 : String) (fr : List String) (T : String → String)
    (C : String → List (PList α)) (n : Nat)
    (hdiff : (fr.map fun f => (C f).map PList.len).all (· == (C f0).map PList.len) = false)
    (hlen : ∀ f ∈ f0 :: fr, ((C f).flatMap PList.rows).length = n)
    (hal : ∀ f ∈ f0 :: fr, ((C f).flatMap PList.rows).map len0 = ((C f0).flatMap PList.rows).map len0) :
    packLists idx ((f0 :: fr).map fun f => (f, T f, C f)) true =
      .ok { index := idx,
            col := { ty := (f0 :: fr).map fun f => (f, T f),
                     chunks := [{ valid := List.replicate n true,
                                  kids := (f0 :: fr).map fun f => { name := f, ty := T f, list := PList.ofRows ((C f).flatMap PList.rows) } }] } } :=
  packLists_other_chunking idx f0 fr T C n hdiff hlen hal

/-- **the list view round trip is stable**: what it returns is `Clean` storage again, and doing it a
    second time changes nothing (not a cell, not a list array). -/
theorem list_view_round_trip_is_stable (s : NSeries α) (h : s.col.Clean) (hne : s.col.chunks ≠ []) :
    ∃ s', s.relist = .ok s' ∧ s'.col.Clean ∧ s'.relist = .ok s' := by
  refine ⟨_, packLists_fieldChunks s.index s.col h hne, allValid_clean h, ?_⟩
  have h2 := packLists_fieldChunks s.index ⟨s.col.ty, s.col.chunks.map PStruct.allValid⟩ (allValid_clean h)
    (by simpa using hne)
  unfold NSeries.relist
  simp only at h2 ⊢
  rw [h2, List.map_map]
  congr 3
  exact List.map_congr_left fun x _ => x.allValid_allValid

/-- the physical list view round trip copies nothing: the re-packed column holds, chunk for chunk, the SAME list arrays. -/
theorem list_view_round_trip_shares_the_lists (s : NSeries α) (h : s.col.Clean) (hne : s.col.chunks ≠ []) :
    s.relist = .ok ⟨s.index, ⟨s.col.ty, s.col.chunks.map PStruct.allValid⟩⟩ :=
  packLists_fieldChunks s.index s.col h hne

/-- non-vacuity: the three-chunk sample column (one chunk a slice into a larger buffer, one empty,
    a missing row, a null child list) meets the hypotheses of the list-view round-trip theorems -/
example : Samples.c1.Clean ∧ Samples.c1.chunks ≠ [] ∧ (Samples.c1.ty.map (·.1)).Nodup := by
  decide +kernel

example : ∀ r ∈ Samples.c1.rows, Row.rect (normRow Samples.c1.ty r) = true := by decide +kernel

end NP.C02
