/-
  C13 — eval computes on the flat view and assigns fields positionally.
-/
import NPModel.Refine.FrameRows
namespace NP.C13
open NP

/-- **Element for element on the flat view**: the value computed at flat position `j` is the
    expression evaluated on record `j` alone (the elementwise assumption about pandas' engine is
    the *definition* of `evalAll`; it is what the correspondence check validates on every
    generated expression).  Consequently the result has exactly one value per flat record. -/
theorem eval_is_elementwise (n : Nat) (look : Nat → Option String → String → Option Cell) (e : Expr)
    (vals : List Cell) (h : evalAll n look e = .ok vals) :
    vals.length = n ∧ ∀ j, j < n → ∃ c, evalAt look e j = .ok c ∧ vals[j]? = some c := by
  unfold evalAll at h
  have ⟨hl, hi⟩ := All2.iff_getElem?.mp (mapM_eq_ok.mp h)
  rw [List.length_range] at hl
  refine ⟨hl.symm, fun j hj => ?_⟩
  have hj' : j < vals.length := hl ▸ hj
  exact ⟨vals[j], hi j j _ (List.getElem?_range hj) (List.getElem?_eq_getElem hj'), List.getElem?_eq_getElem hj'⟩

theorem evalAt_reads_one_record (look : Nat → Option String → String → Option Cell) (e : Expr) (j : Nat) (c : Cell) :
    evalAt look e j = .ok c ↔ e.eval (look j) = .ok c := by
  unfold evalAt
  cases h : e.eval (look j) <;> simp [exc]

/-- **`nest.new = expr` changes that field of that nest and nothing else**: when the nest exists,
    the result frame is the receiver with that one column replaced (same index, same other
    columns, same column order — see `NFrame.setCol_*`), and inside the nest every chunk keeps
    its validity (missing rows, number of rows) and every other field as the identical list
    array; field `new` holds windows of the assigned values. -/
theorem eval_assign_frame_condition {F F' : NFrame Cell} {nest field : String} {e : Expr}
    (hn : F.nestedColumns.contains nest = true) (h : F.evalAssign nest field e = .ok F') :
    ∃ c c' ty, F.nest? nest = .ok c ∧ F' = F.setCol nest (.nest c') ∧ All2 (FieldSet field ty) c.chunks c'.chunks := by
  obtain ⟨_, ty, _, _, h⟩ := evalAssign_eq_ok.mp h
  obtain ⟨c, c', h1, h2, h3⟩ := setField_existing_nest hn h
  exact ⟨c, c', ty, h1, h2, h3⟩

/-- the rest of the frame condition, stated for the replaced column -/
theorem replaced_column_frame_condition (F : NFrame Cell) (nest : String) (d : ColData Cell)
    (h : F.cols.any (·.1 == nest) = true) :
    (F.setCol nest d).index = F.index ∧ (F.setCol nest d).cols.map (·.1) = F.cols.map (·.1) ∧
    ∀ m, (nest == m) = false → (F.setCol nest d).col? m = F.col? m :=
  ⟨NFrame.setCol_index F nest d, NFrame.setCol_names h, fun _ hm => NFrame.setCol_other hm⟩

/-- **`eval("nest.f = expr")` stores positionally, row by row** — through the implementation model
    (`evalExpr` on the flat view, `__setitem__`'s dispatch, `set_flat_field` / `fill_field_lists`,
    the chunk loop of `set_list_field`, the validator): on a cleanly stored nest of any chunking a
    successful assignment replaces only that column; the values computed on the flat view are cut
    by the rows' record counts and piece `i` becomes field `f` of row `i` (every other field and
    every missing row untouched, the dtype gets `f : ty`).  When the flat index coincides with the
    frame's index the "one value per row" branch is taken instead (identical when every row holds
    one record; finding K5 otherwise). -/
theorem eval_assign_row_by_row (F F' : NFrame Cell) (nest field : String) (e : Expr) (c : PCol Cell)
    (hn : F.nestedColumns.contains nest = true) (hc : F.nest? nest = .ok c) (hclean : c.Clean)
    (idx : List Label) (ty : String) (vals : List Cell) (hev : F.evalExpr e = .ok (idx, ty, vals))
    (h : F.evalAssign nest field e = .ok F') :
    ∃ c', F' = F.setCol nest (.nest c') ∧ c'.ty = Spec.tyUpsert c.ty field ty ∧
      c'.rows = if (idx == F.index) = true
        then List.zipWith (fun r v => r.map fun t => Spec.Table.upsert t field (List.replicate (Row.len r) v)) c.rows vals
        else List.zipWith (fun r l => r.map fun t => Spec.Table.upsert t field l) c.rows
              (Spec.splitBy (c.rows.map Row.len) vals) :=
  evalAssign_rows F F' nest field e c hn hc hclean idx ty vals hev h

end NP.C13
