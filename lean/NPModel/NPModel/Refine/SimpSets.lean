import Lean.Meta.Tactic.Simp.RegisterCommand

/-- Equivalences that take a successful `do`-block of `Except` apart without case splits:
    `simp only [op, exc] at h` turns `h : op … = .ok r` into the guards that were off and the results of the steps. -/
register_simp_attr exc
