/-
  The comparator of `sort_values` on a nested layer is a total preorder (given a strict weak order
  on the values), so the stable sort really sorts.  A three-way comparison is lawful as soon as it is
  antisymmetric (`swap`) and `cmp · · ≠ .gt` is transitive (`CmpLawsOn.of_swap_trans`); every layer of
  the comparator is shown lawful through these two facts only.
-/
import NPModel.Impl.Frame
import NPModel.Refine.LabelOrder
namespace NP
variable {α β : Type}

/-- a strict weak order on the values in `S`: asymmetric and negatively transitive (e.g. `<` on
    numbers or strings) -/
structure StrictWeakOn (S : α → Prop) (lt : α → α → Bool) : Prop where
  asymm : ∀ a b, S a → S b → lt a b = true → lt b a = false
  negtrans : ∀ a b c, S a → S b → S c → lt a b = false → lt b c = false → lt a c = false

abbrev StrictWeak (lt : α → α → Bool) : Prop := StrictWeakOn (fun _ => True) lt

theorem StrictWeakOn.mono {S T : α → Prop} {lt : α → α → Bool} (h : StrictWeakOn T lt) (hst : ∀ a, S a → T a) :
    StrictWeakOn S lt :=
  ⟨fun a b ha hb => h.asymm a b (hst a ha) (hst b hb),
   fun a b c ha hb hc => h.negtrans a b c (hst a ha) (hst b hb) (hst c hc)⟩

/-- a three-way comparison that behaves on `S` like the one of a total preorder; relative to `S`
    because the order of the cells (`cellLt`) is a strict weak order only among cells of one kind -/
structure CmpLawsOn (S : α → Prop) (cmp : α → α → Ordering) : Prop where
  swap : ∀ a b, S a → S b → cmp b a = (cmp a b).swap
  lt_le : ∀ a b c, S a → S b → S c → cmp a b = .lt → cmp b c ≠ .gt → cmp a c = .lt
  le_lt : ∀ a b c, S a → S b → S c → cmp a b ≠ .gt → cmp b c = .lt → cmp a c = .lt
  eq_eq : ∀ a b c, S a → S b → S c → cmp a b = .eq → cmp b c = .eq → cmp a c = .eq

structure CmpLaws (cmp : α → α → Ordering) : Prop where
  swap : ∀ a b, cmp b a = (cmp a b).swap
  lt_le : ∀ a b c, cmp a b = .lt → cmp b c ≠ .gt → cmp a c = .lt
  le_lt : ∀ a b c, cmp a b ≠ .gt → cmp b c = .lt → cmp a c = .lt
  eq_eq : ∀ a b c, cmp a b = .eq → cmp b c = .eq → cmp a c = .eq

theorem CmpLawsOn.comap {S : α → Prop} {cmp : α → α → Ordering} (h : CmpLawsOn S cmp) (f : β → α)
    (hf : ∀ i, S (f i)) : CmpLaws fun i j => cmp (f i) (f j) :=
  ⟨fun a b => h.swap _ _ (hf a) (hf b), fun a b c => h.lt_le _ _ _ (hf a) (hf b) (hf c),
   fun a b c => h.le_lt _ _ _ (hf a) (hf b) (hf c), fun a b c => h.eq_eq _ _ _ (hf a) (hf b) (hf c)⟩

theorem CmpLawsOn.global {cmp : α → α → Ordering} (h : CmpLawsOn (fun _ => True) cmp) : CmpLaws cmp :=
  h.comap id fun _ => trivial

theorem CmpLaws.on {cmp : α → α → Ordering} (h : CmpLaws cmp) (S : α → Prop) : CmpLawsOn S cmp :=
  ⟨fun a b _ _ => h.swap a b, fun a b c _ _ _ => h.lt_le a b c, fun a b c _ _ _ => h.le_lt a b c,
   fun a b c _ _ _ => h.eq_eq a b c⟩

/-- **the two facts behind the four laws**: `cmp b a` mirrors `cmp a b`, and `a ≤ b := cmp a b ≠ .gt`
    is transitive.  (`cmp a b ≠ .lt` then says `b ≤ a`, and each law is one use of transitivity.) -/
theorem CmpLawsOn.of_swap_trans {S : α → Prop} {cmp : α → α → Ordering}
    (swap : ∀ a b, S a → S b → cmp b a = (cmp a b).swap)
    (trans : ∀ a b c, S a → S b → S c → cmp a b ≠ .gt → cmp b c ≠ .gt → cmp a c ≠ .gt) : CmpLawsOn S cmp := by
  have ge : ∀ a b, S a → S b → (cmp a b ≠ .lt ↔ cmp b a ≠ .gt) := fun a b sa sb => by
    rw [swap a b sa sb, Ne, Ne, Ordering.swap_eq_gt]
  refine ⟨swap, ?_, ?_, ?_⟩
  · intro a b c sa sb sc hab hbc
    refine Decidable.byContradiction fun hac => ?_
    exact (ge a b sa sb).2 (trans b c a sb sc sa hbc ((ge a c sa sc).1 hac)) hab
  · intro a b c sa sb sc hab hbc
    refine Decidable.byContradiction fun hac => ?_
    exact (ge b c sb sc).2 (trans c a b sc sa sb ((ge a c sa sc).1 hac) hab) hbc
  · intro a b c sa sb sc hab hbc
    have h1 : cmp a c ≠ .gt := trans a b c sa sb sc (by rw [hab]; decide) (by rw [hbc]; decide)
    have h2 : cmp a c ≠ .lt := (ge a c sa sc).2 (trans c b a sc sb sa
      ((ge b c sb sc).1 (by rw [hbc]; decide)) ((ge a b sa sb).1 (by rw [hab]; decide)))
    cases hac : cmp a c
    · exact absurd hac h2
    · rfl
    · exact absurd hac h1

theorem CmpLawsOn.le_trans {S : α → Prop} {cmp : α → α → Ordering} (h : CmpLawsOn S cmp) {a b c : α}
    (sa : S a) (sb : S b) (sc : S c) (h1 : cmp a b ≠ .gt) (h2 : cmp b c ≠ .gt) : cmp a c ≠ .gt := by
  cases hab : cmp a b
  · rw [h.lt_le a b c sa sb sc hab h2]; decide
  · cases hbc : cmp b c
    · rw [h.le_lt a b c sa sb sc h1 hbc]; decide
    · rw [h.eq_eq a b c sa sb sc hab hbc]; decide
    · exact absurd hbc h2
  · exact absurd hab h1

theorem CmpLaws.le_total {cmp : β → β → Ordering} (h : CmpLaws cmp) (a b : β) :
    (cmp a b != .gt || cmp b a != .gt) = true := by
  rw [h.swap a b]
  cases cmp a b <;> rfl

theorem CmpLaws.le_trans {cmp : β → β → Ordering} (h : CmpLaws cmp) {a b c : β}
    (h1 : cmp a b ≠ .gt) (h2 : cmp b c ≠ .gt) : cmp a c ≠ .gt :=
  (h.on fun _ => True).le_trans trivial trivial trivial h1 h2

def cmp0 (lt : α → α → Bool) (a b : α) : Ordering := if lt a b then .lt else if lt b a then .gt else .eq

theorem cmp0_ne_gt {lt : α → α → Bool} {a b : α} (h : lt a b = true → lt b a = false) :
    cmp0 lt a b ≠ .gt ↔ lt b a = false := by
  unfold cmp0
  cases hab : lt a b
  · cases lt b a <;> simp
  · simp [h hab]

theorem cmp0_laws {S : α → Prop} {lt : α → α → Bool} (h : StrictWeakOn S lt) : CmpLawsOn S (cmp0 lt) := by
  apply CmpLawsOn.of_swap_trans
  · intro a b sa sb
    have := h.asymm a b sa sb
    unfold cmp0
    cases hab : lt a b
    · cases lt b a <;> rfl
    · rw [this hab]; rfl
  · intro a b c sa sb sc
    rw [cmp0_ne_gt (h.asymm a b sa sb), cmp0_ne_gt (h.asymm b c sb sc),
      cmp0_ne_gt (h.asymm a c sa sc)]
    exact fun hba hcb => h.negtrans c b a sc sb sa hcb hba

def dirCmp (asc : Bool) (cmp : α → α → Ordering) (a b : α) : Ordering := if asc then cmp a b else (cmp a b).swap

/-- descending is the mirrored comparison, and mirroring a transitive relation leaves it transitive -/
theorem dirCmp_laws {S : α → Prop} {asc : Bool} {cmp : α → α → Ordering} (h : CmpLawsOn S cmp) :
    CmpLawsOn S (dirCmp asc cmp) := by
  cases asc
  · apply CmpLawsOn.of_swap_trans
    · intro a b sa sb
      simp only [dirCmp, Bool.false_eq_true, if_false, h.swap a b sa sb]
    · intro a b c sa sb sc
      simp only [dirCmp, Bool.false_eq_true, if_false, ← h.swap _ _ sa sb, ← h.swap _ _ sb sc, ← h.swap _ _ sa sc]
      exact fun hba hcb => h.le_trans sc sb sa hcb hba
  · exact h

/-- nulls first or last, whatever the direction -/
def nullCmp (isNull : α → Bool) (naFirst : Bool) (cmp : α → α → Ordering) (a b : α) : Ordering :=
  match isNull a, isNull b with
  | true, true => .eq
  | true, false => if naFirst then .lt else .gt
  | false, true => if naFirst then .gt else .lt
  | false, false => cmp a b

/-- the nulls are one class of equivalent values at one end: a case split on which of the values are null
    leaves either a constant comparison or the law of `cmp` on non-null values -/
theorem nullCmp_laws (S : α → Prop) {isNull : α → Bool} {naFirst : Bool} {cmp : α → α → Ordering}
    (h : CmpLawsOn (fun a => S a ∧ isNull a = false) cmp) : CmpLawsOn S (nullCmp isNull naFirst cmp) := by
  apply CmpLawsOn.of_swap_trans
  · intro a b sa sb
    unfold nullCmp
    cases ha : isNull a <;> cases hb : isNull b
    · exact h.swap a b ⟨sa, ha⟩ ⟨sb, hb⟩
    all_goals cases naFirst <;> rfl
  · intro a b c sa sb sc
    unfold nullCmp
    cases ha : isNull a <;> cases hb : isNull b <;> cases hc : isNull c
    -- the eight cases of `(a, b, c)`, `v` a value and `n` a null
    · exact h.le_trans ⟨sa, ha⟩ ⟨sb, hb⟩ ⟨sc, hc⟩   -- vvv
    -- with a null among them, the conclusion is one of the premises, or `.eq ≠ .gt` …
    · exact fun _ h => h                                  -- vvn
    -- … except for a null between two values: then one premise puts nulls first, the other last
    · cases naFirst <;> simp                              -- vnv
    · exact fun h _ => h                                  -- vnn
    · exact fun h _ => h                                  -- nvv
    · exact fun _ _ h => nomatch h                        -- nvn
    · exact fun _ h => h                                  -- nnv
    · exact fun _ h => h                                  -- nnn

theorem keyLe_eq (lt : α → α → Bool) (isNull : α → Bool) (asc naFirst : Bool) :
    keyLe lt isNull asc naFirst = nullCmp isNull naFirst (dirCmp asc (cmp0 lt)) := by
  funext a b
  unfold keyLe nullCmp dirCmp cmp0
  cases isNull a <;> cases isNull b <;> try rfl
  -- both present: ascending is `cmp0` itself, descending is its mirror image
  cases asc
  · cases lt a b <;> cases lt b a <;> rfl
  · rfl

theorem keyLe_laws (S : α → Prop) (lt : α → α → Bool) (isNull : α → Bool) (asc naFirst : Bool)
    (h : StrictWeakOn (fun a => S a ∧ isNull a = false) lt) : CmpLawsOn S (keyLe lt isNull asc naFirst) := by
  rw [keyLe_eq]
  exact nullCmp_laws S (dirCmp_laws (cmp0_laws h))

/-- first `c1`, ties broken by `c2` -/
def lexCombine (c1 c2 : β → β → Ordering) (i j : β) : Ordering :=
  match c1 i j with
  | .lt => .lt
  | .gt => .gt
  | .eq => c2 i j

theorem lexCombine_ne_gt (c1 c2 : β → β → Ordering) (a b : β) :
    lexCombine c1 c2 a b ≠ .gt ↔ c1 a b = .lt ∨ (c1 a b = .eq ∧ c2 a b ≠ .gt) := by
  unfold lexCombine
  cases c1 a b <;> simp

theorem lexCombine_laws (c1 c2 : β → β → Ordering) (h1 : CmpLaws c1) (h2 : CmpLaws c2) : CmpLaws (lexCombine c1 c2) := by
  apply CmpLawsOn.global
  apply CmpLawsOn.of_swap_trans
  · intro a b _ _
    unfold lexCombine
    rw [h1.swap a b]
    cases c1 a b
    · rfl
    · exact h2.swap a b
    · rfl
  · intro a b c _ _ _
    simp only [lexCombine_ne_gt]
    -- strictly below at the first key on either side: strictly below; tied on both sides: the second key decides
    rintro (hab | ⟨hab, hab'⟩) (hbc | ⟨hbc, hbc'⟩)
    · exact .inl (h1.lt_le a b c hab (by rw [hbc]; decide))
    · exact .inl (h1.lt_le a b c hab (by rw [hbc]; decide))
    · exact .inl (h1.le_lt a b c (by rw [hab]; decide) hbc)
    · exact .inr ⟨h1.eq_eq a b c hab hbc, h2.le_trans hab' hbc'⟩

/-- three-way comparison of records `i`, `j` by the keys, most significant first -/
def keysCmp [Inhabited α] (lt : α → α → Bool) (isNull : α → Bool) (naFirst : Bool) :
    List (Bool × List α) → Nat → Nat → Ordering
  | [] => fun _ _ => .eq
  | k :: ks => lexCombine (fun i j => keyLe lt isNull k.1 naFirst (k.2.getD i default) (k.2.getD j default))
      (keysCmp lt isNull naFirst ks)

/-- the cells a key column can show: its values, and the default read beyond its end -/
def colDomain [Inhabited α] (v : List α) : α → Prop := fun x => x ∈ v ∨ x = default

theorem getD_colDomain [Inhabited α] (v : List α) (i : Nat) : colDomain v (v.getD i default) := by
  unfold colDomain
  rw [List.getD_eq_getElem?_getD]
  cases h : v[i]? with
  | none => right; rfl
  | some x => left; exact List.mem_of_getElem? h

/-- the non-null values of every key column are strictly weakly ordered by `lt` (nulls never
    reach `lt`: they are placed by `na_position`) -/
def KeysOrdered [Inhabited α] (lt : α → α → Bool) (isNull : α → Bool) (kcols : List (Bool × List α)) : Prop :=
  ∀ k ∈ kcols, StrictWeakOn (fun v => colDomain k.2 v ∧ isNull v = false) lt

theorem KeysOrdered.of_global [Inhabited α] {lt : α → α → Bool} (h : StrictWeak lt) (isNull : α → Bool)
    (kcols : List (Bool × List α)) : KeysOrdered lt isNull kcols := fun _ _ => h.mono (fun _ _ => trivial)

theorem keysCmp_laws [Inhabited α] {lt : α → α → Bool} {isNull : α → Bool} {naFirst : Bool}
    {kcols : List (Bool × List α)} (h : KeysOrdered lt isNull kcols) : CmpLaws (keysCmp lt isNull naFirst kcols) := by
  induction kcols with
  | nil => exact ⟨fun _ _ => rfl, fun _ _ _ h1 _ => (nomatch h1), fun _ _ _ _ h2 => (nomatch h2), fun _ _ _ _ _ => rfl⟩
  | cons k ks ih =>
    exact lexCombine_laws _ _
      ((keyLe_laws (colDomain k.2) lt isNull k.1 naFirst (h k List.mem_cons_self)).comap
        (fun i => k.2.getD i default) (getD_colDomain k.2))
      (ih fun k' hk' => h k' (List.mem_cons_of_mem _ hk'))

theorem lexLe_eq [Inhabited α] {lt : α → α → Bool} {isNull : α → Bool} {naFirst : Bool} {i j : Nat}
    {kcols : List (Bool × List α)} :
    lexLe lt isNull naFirst (sortKeysAt kcols i j) = (keysCmp lt isNull naFirst kcols i j != .gt) := by
  induction kcols with
  | nil => rfl
  | cons k ks ih =>
    rw [sortKeysAt, List.map_cons, lexLe, keysCmp, lexCombine]
    cases keyLe lt isNull k.1 naFirst (k.2.getD i default) (k.2.getD j default)
    · rfl
    · exact ih
    · rfl

def labelCmp (a b : Label) : Ordering := if a == b then .eq else if a.le b then .lt else .gt

theorem labelCmp_ne_gt {a b : Label} : labelCmp a b ≠ .gt ↔ a.le b = true := by
  unfold labelCmp
  by_cases hab : a = b
  · subst hab; simpa using Label.le_total a a
  · cases a.le b <;> simp [hab]

theorem labelCmp_laws : CmpLaws labelCmp := by
  apply CmpLawsOn.global
  apply CmpLawsOn.of_swap_trans
  · intro a b _ _
    unfold labelCmp
    by_cases hab : a = b
    · rw [hab, beq_self_eq_true, if_pos rfl]
      rfl
    · -- distinct labels: exactly one of `a ≤ b`, `b ≤ a` holds
      rw [beq_false_of_ne hab, beq_false_of_ne (Ne.symm hab)]
      cases h1 : a.le b <;> cases h2 : b.le a
      · have := Label.le_total a b
        rw [h1, h2] at this
        cases this
      · rfl
      · rfl
      · exact absurd (Label.le_antisymm a b h1 h2) hab
  · intro a b c _ _ _
    simp only [labelCmp_ne_gt]
    exact Label.le_trans a b c

/-- the whole comparator: row ordinal first, then the keys -/
def sortCmp [Inhabited α] (lt : α → α → Bool) (isNull : α → Bool) (naFirst : Bool) (ords : List Label)
    (kcols : List (Bool × List α)) : Nat → Nat → Ordering :=
  lexCombine (fun i j => labelCmp (ords.getD i (.int 0)) (ords.getD j (.int 0))) (keysCmp lt isNull naFirst kcols)

theorem sortCmp_laws [Inhabited α] (lt : α → α → Bool) (isNull : α → Bool) (naFirst : Bool)
    (ords : List Label) (kcols : List (Bool × List α)) (h : KeysOrdered lt isNull kcols) :
    CmpLaws (sortCmp lt isNull naFirst ords kcols) :=
  lexCombine_laws _ _ ((labelCmp_laws.on fun _ => True).comap (fun i => ords.getD i (.int 0)) fun _ => trivial)
    (keysCmp_laws h)

section sortLe
variable [Inhabited α] {lt : α → α → Bool} {isNull : α → Bool} {naFirst : Bool} {ords : List Label}
  {kcols : List (Bool × List α)}

theorem sortLe_eq (i j : Nat) :
    sortLe lt isNull naFirst ords kcols i j = (sortCmp lt isNull naFirst ords kcols i j != .gt) := by
  unfold sortLe sortCmp lexCombine labelCmp
  by_cases he : (ords.getD i (.int 0) == ords.getD j (.int 0)) = true
  · simp only [he, if_true]
    exact lexLe_eq
  · simp only [he, Bool.false_eq_true, if_false]
    cases (ords.getD i (.int 0)).le (ords.getD j (.int 0)) <;> simp

theorem sortLe_total (h : KeysOrdered lt isNull kcols) (a b : Nat) :
    (sortLe lt isNull naFirst ords kcols a b || sortLe lt isNull naFirst ords kcols b a) = true := by
  rw [sortLe_eq, sortLe_eq]
  exact (sortCmp_laws lt isNull naFirst ords kcols h).le_total a b

theorem sortLe_trans (h : KeysOrdered lt isNull kcols) (a b c : Nat)
    (h1 : sortLe lt isNull naFirst ords kcols a b = true) (h2 : sortLe lt isNull naFirst ords kcols b c = true) :
    sortLe lt isNull naFirst ords kcols a c = true := by
  rw [sortLe_eq, bne_iff_ne] at h1 h2 ⊢
  exact (sortCmp_laws lt isNull naFirst ords kcols h).le_trans h1 h2

theorem sortLe_same_ordinal {i j : Nat} (h : ords.getD i (.int 0) = ords.getD j (.int 0)) :
    sortLe lt isNull naFirst ords kcols i j = lexLe lt isNull naFirst (sortKeysAt kcols i j) := by
  rw [sortLe, h, beq_self_eq_true, if_pos rfl]

theorem sortLe_ordinal {i j : Nat} (h : sortLe lt isNull naFirst ords kcols i j = true) :
    (ords.getD i (.int 0)).le (ords.getD j (.int 0)) = true := by
  by_cases he : ords.getD i (.int 0) = ords.getD j (.int 0)
  · rw [he, ← Bool.or_self (Label.le _ _)]
    exact Label.le_total _ _
  · rw [sortLe, beq_false_of_ne he] at h
    exact h

end sortLe

end NP
