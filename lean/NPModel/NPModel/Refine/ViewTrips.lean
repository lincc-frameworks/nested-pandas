/-
  The list view and the element view round trips of C02 on the implementation model:
  `pack_lists ∘ to_lists` (by name through the list columns, and along the physical path: the child
  list arrays of every chunk handed over as they are) and `pack_seq ∘ list(series)`; `pack_seq`
  refuses ragged rows.
-/
import NPModel.Refine.Observers
import NPModel.Refine.IfElse
namespace NP
variable {α : Type}

/-- a table that lists exactly the dtype's field names, each once, is what the dtype sees of it -/
theorem normRow_id (ty : List (String × String)) (t : Table α) (hnames : t.map (·.1) = ty.map (·.1))
    (hn : (ty.map (·.1)).Nodup) : normRow ty (some t) = some t := by
  -- field by field in the table's own order: each name finds its own entry
  have e : ty.map (fun p => (p.1, ((t.find? (·.1 == p.1)).map (·.2)).getD [])) =
      (ty.map (·.1)).map fun n => (n, ((t.find? (·.1 == n)).map (·.2)).getD []) := by rw [List.map_map]; rfl
  rw [normRow, Option.map_some, e, ← hnames, List.map_map]
  refine congrArg some ((List.map_congr_left fun x hx => ?_).trans (List.map_id _))
  rw [Function.comp, find_of_nodup_keys t (hnames ▸ hn) x hx]
  rfl

/-- `pack_seq` validates ONE fresh chunk, which passes exactly when every offered row is rectangular under the dtype -/
theorem ofScalars_validate_iff {ty : List (String × String)} {rows : List (Row α)} :
    (PStruct.ofScalars ty (rows.map (boxScalar ty))).validate = .ok () ↔ ∀ r ∈ rows, Row.rect (normRow ty r) = true := by
  simp only [PStruct.ofScalars_validate_iff, List.forall_mem_map, unbox_box]

/-- **`pack_seq` stores what the dtype sees of every row offered**, whenever each of them is
    rectangular under the dtype (and refuses otherwise: `packSeq_ragged`). -/
theorem packSeq_rows (idx : List Label) (ty : List (String × String)) (rows : List (Row α))
    (hrect : ∀ r ∈ rows, Row.rect (normRow ty r) = true) :
    ∃ s, packSeq idx ty rows = .ok s ∧ s.index = idx ∧ s.col.ty = ty ∧ s.col.rows = rows.map (normRow ty) := by
  refine ⟨⟨idx, ⟨ty, [PStruct.ofScalars ty (rows.map (boxScalar ty))]⟩⟩, ?_, rfl, rfl, ?_⟩
  · unfold packSeq
    rw [NArr.init_ok (List.cons_ne_nil _ _) (by rw [PCol.validate_single]; exact ofScalars_validate_iff.mpr hrect)]
    rfl
  · rw [PCol.rows_single, PStruct.ofScalars_rows, List.map_map]
    exact List.map_congr_left fun r _ => unbox_box ty r

theorem row_names (c : PCol α) (hw : c.WF = true) : ∀ r ∈ c.rows, ∀ t, r = some t → t.map (·.1) = c.ty.map (·.1) :=
  PCol.row_names c hw

/-- **the element view round trip on the implementation model**: packing the per-row tables of a
    validated column (field names distinct) under its own dtype gives back the very same rows. -/
theorem iter_packSeq (s : NSeries α) (hw : s.col.WF = true) (hne : ∀ ch ∈ s.col.chunks, ch.nullEmpty = true)
    (hv : s.col.validate = .ok ()) (hn : (s.col.ty.map (·.1)).Nodup) :
    ∃ s', packSeq s.index s.col.ty (NArr.iter s.col) = .ok s' ∧ s'.index = s.index ∧ s'.col.ty = s.col.ty ∧
      s'.col.rows = s.col.rows := by
  have hnorm : ∀ r ∈ s.col.rows, normRow s.col.ty r = r := by
    intro r hr
    cases r with
    | none => rfl
    | some t => exact normRow_id s.col.ty t (row_names s.col hw _ hr t rfl) hn
  obtain ⟨s', h1, h2, h3, h4⟩ := packSeq_rows s.index s.col.ty s.col.rows fun r hr => by
    rw [hnorm r hr]
    exact List.all_eq_true.mp (PCol.validate_rect s.col hw hne hv) r hr
  exact ⟨s', h1, h2, h3, h4.trans ((List.map_congr_left hnorm).trans (List.map_id _))⟩

theorem listsOf_lens (c : PCol α) (h : c.Clean) (f f' : String)
    (hf : c.ty.any (·.1 == f) = true) (hf' : c.ty.any (·.1 == f') = true) :
    (listsOf c f).map len0 = (listsOf c f').map len0 := by
  rw [listsOf_lens_rows h hf, listsOf_lens_rows h hf']

/-- how `pack_lists` is handed the frame `to_lists` returned: every column one list array -/
def ListDF.asChunks (df : ListDF α) : List (String × String × List (PList α)) :=
  df.cols.map fun (n, t, ls) => (n, t, [PList.ofRows ls])

/-- the last two steps of `pack_lists` on ONE fresh list array per column, all of one length and with equal list
    lengths row by row: the struct is built with every row present, and passes validation -/
theorem packOne_ok {β : Type} (xs : List β) (hne : xs ≠ []) (N T : β → String)
    (L : β → List (Option (List α))) {n : Nat}
    (hlen : ∀ x ∈ xs, (L x).length = n)
    (hal : ∀ x ∈ xs, ∀ y ∈ xs, (L x).map len0 = (L y).map len0)
    {S : PStruct α} (hS : S = ⟨List.replicate n true,
      xs.map fun x => { name := N x, ty := T x, list := PList.ofRows (L x) }⟩) :
    structFromArrays (xs.map fun x => ({ name := N x, ty := T x, list := PList.ofRows (L x) } : PField α)) none = .ok S ∧
    NArr.init { ty := xs.map fun x => (N x, T x), chunks := [S] } true =
      .ok { ty := xs.map fun x => (N x, T x), chunks := [S] } := by
  subst hS
  refine ⟨structFromArrays_none_ok (by rwa [Ne, List.map_eq_nil_iff]) n ?_, NArr.init_ok (List.cons_ne_nil _ _) ?_⟩
  · exact List.forall_mem_map.mpr fun x hx => by rw [PList.ofRows_len, hlen x hx]
  · rw [PCol.validate_single, PStruct.validate_eq_ok]
    exact List.forall_mem_map.mpr fun x hx => List.forall_mem_map.mpr fun y hy => by
      rw [PList.ofRows_offs, PList.ofRows_offs, hal x hx y hy]

/-- `pack_lists` on columns that all have the same chunk lengths: one struct per chunk position -/
theorem packLists_equal_chunking (idx : List Label) (cols : List (String × String × List (PList α))) (v : Bool)
    (L : List Nat) (hne : cols ≠ []) (hl : ∀ col ∈ cols, col.2.2.map PList.len = L) :
    packLists idx cols v = (do
      let chunks ← (List.range L.length).mapM fun i =>
        structFromArrays (cols.map fun (n, t, chs) =>
          ({ name := n, ty := t, list := chs.getD i { offs := [0], valid := [], vals := [] } } : PField α)) none
      let c ← NArr.init { ty := cols.map fun (n, t, _) => (n, t), chunks := chunks } v
      pure { index := idx, col := c }) := by
  obtain ⟨c0, cr, rfl⟩ := List.exists_cons_of_ne_nil hne
  have hall : (cr.map fun x => x.2.2.map PList.len).all (· == L) = true :=
    List.all_eq_true.mpr (List.forall_mem_map.mpr fun col hc => beq_iff_eq.mpr (hl col (List.mem_cons_of_mem _ hc)))
  simp only [packLists, List.map_cons, hl c0 List.mem_cons_self, hall, if_true]

/-- `pack_lists` on single-chunk columns in the canonical layout (one `PList.ofRows (L x)` per column
    `x`, names `N x`, types `T x`) of one length and with the same per-row lengths: one all-valid chunk
    holding those very lists. -/
theorem packLists_fresh {β : Type} (idx : List Label) (xs : List β) (hne : xs ≠ []) (N T : β → String)
    (L : β → List (Option (List α))) {n : Nat}
    (hlen : ∀ x ∈ xs, (L x).length = n)
    (hal : ∀ x ∈ xs, ∀ y ∈ xs, (L x).map len0 = (L y).map len0) :
    packLists idx (xs.map fun x => (N x, T x, [PList.ofRows (L x)])) true =
      .ok ⟨idx, ⟨xs.map fun x => (N x, T x),
        [⟨List.replicate n true, xs.map fun x => { name := N x, ty := T x, list := PList.ofRows (L x) }⟩]⟩⟩ := by
  have ⟨h1, h2⟩ := packOne_ok xs hne N T L hlen hal rfl
  rw [packLists_equal_chunking idx _ true [n] (by rwa [Ne, List.map_eq_nil_iff]) (List.forall_mem_map.mpr fun x hx => by
    show [(PList.ofRows (L x)).len] = [n]
    rw [PList.ofRows_len, hlen x hx])]
  simp only [List.length_singleton, List.range_one, List.mapM_cons, List.mapM_nil, List.map_map, Function.comp_def,
    List.getD_cons_zero, h1, h2, exc]

theorem packLists_single (idx : List Label) (f0 : String) (fr : List String) (T : String → String)
    (L : String → List (Option (List α))) (n : Nat)
    (hlen : ∀ f ∈ f0 :: fr, (L f).length = n)
    (hal : ∀ f ∈ f0 :: fr, (L f).map len0 = (L f0).map len0) :
    packLists idx ((f0 :: fr).map fun f => (f, T f, [PList.ofRows (L f)])) true =
      .ok { index := idx,
            col := { ty := (f0 :: fr).map fun f => (f, T f),
                     chunks := [{ valid := List.replicate n true,
                                  kids := (f0 :: fr).map fun f => { name := f, ty := T f, list := PList.ofRows (L f) } }] } } :=
  packLists_fresh idx (f0 :: fr) (List.cons_ne_nil _ _) id T L hlen
    fun f hf g hg => (hal f hf).trans (hal g hg).symm

theorem toLists_ok (idx : List Label) {c : PCol α} (hw : c.WF = true) (hch : c.chunks ≠ []) (hty : c.ty ≠ []) :
    NSeries.toLists ⟨idx, c⟩ none = .ok ⟨idx, c.ty.map fun p => (p.1, tyOf c p.1, listsOf c p.1)⟩ := by
  have hne : (c.ty.map (·.1)).isEmpty = false := by simpa using hty
  unfold NSeries.toLists
  simp only [fieldNames_ok hw hch, Except.ok_bind, Except.pure_eq, hne, Bool.false_eq_true, if_false]
  -- the `?_` (second bullet): the column `to_lists` builds for a declared field `p.1` is `listsOf c p.1`
  rw [mapM_ok_of_forall (fun f => (f, tyOf c f, listsOf c f)) (List.forall_mem_map.mpr fun p hp => ?_), List.map_map]
  · rfl
  · rw [iterFieldLists_eq c hw p.1 (field_of_ty hp)]
    rfl

theorem toLists_packLists (s : NSeries α) (h : s.col.Clean) (hne : s.col.chunks ≠ []) :
    ∃ df s', s.toLists none = .ok df ∧ packLists df.index df.asChunks true = .ok s' ∧
      s'.index = s.index ∧ s'.col.ty.map (·.1) = s.col.ty.map (·.1) ∧
      s'.col.rows = (List.range s.col.len).map fun i =>
        some (s.col.ty.map fun p => (p.1, (Spec.fieldLists s.col.rows p.1).getD i [])) := by
  obtain ⟨idx, c⟩ := s
  have hpack := packLists_fresh idx c.ty h.fields (·.1) (fun p => tyOf c p.1) (fun p => listsOf c p.1)
    (fun p hp => (listsOf_spec c h p.1 (field_of_ty hp)).2)
    (fun p hp q hq => listsOf_lens c h p.1 q.1 (field_of_ty hp) (field_of_ty hq))
  have hchunks : (⟨idx, c.ty.map fun p => (p.1, tyOf c p.1, listsOf c p.1)⟩ : ListDF α).asChunks =
      c.ty.map fun p => (p.1, tyOf c p.1, [PList.ofRows (listsOf c p.1)]) := List.map_map ..
  rw [← hchunks] at hpack
  refine ⟨_, _, toLists_ok idx h.wf hne h.fields, hpack, rfl, by rw [List.map_map]; rfl, ?_⟩
  simp only [PCol.rows_single, PStruct.rows, PStruct.len, List.length_replicate]
  refine List.map_congr_left fun i hi => ?_
  rw [PStruct.rowAt_allValid (List.mem_range.mp hi), rowOfKids, List.map_map]
  refine congrArg some (List.map_congr_left fun p hp => congrArg (Prod.mk p.1) ?_)
  -- the `i`-th list of the column, a null list read as no elements
  rw [← (listsOf_spec c h p.1 (field_of_ty hp)).1]
  show ((PList.ofRows (listsOf c p.1)).rows.getD i none).getD [] = _
  rw [PList.ofRows_rows]
  exact (getD_map (fun r => r.getD []) (listsOf c p.1) i none).symm

/-- with distinct field names, "under every field name the list that field has in row i" IS row i —
    and a table of empty lists where row i is missing -/
theorem lists_of_row (ty : List (String × String)) (rows : List (Row α)) (hn : (ty.map (·.1)).Nodup)
    (hnames : ∀ r ∈ rows, ∀ t, r = some t → t.map (·.1) = ty.map (·.1)) (i : Nat) (hi : i < rows.length) :
    (ty.map fun p => (p.1, (Spec.fieldLists rows p.1).getD i [])) =
      (rows[i]).getD (ty.map fun p => (p.1, [])) := by
  have hget : ∀ f, (Spec.fieldLists rows f).getD i [] =
      (match rows[i] with | none => [] | some t => ((t.find? (·.1 == f)).map (·.2)).getD []) := fun f => by
    rw [List.getElem_eq_getD none]
    exact getD_map _ rows i none
  simp only [hget]
  cases hr : rows[i] with
  | none => rfl
  | some t => exact Option.some.inj (normRow_id ty t (hnames _ (List.getElem_mem hi) t hr) hn)

/-- **the list view round trip, row by row** (field names distinct): every row comes back present;
    a row that held a table holds the same table, a missing row a table of lists without elements. -/
theorem toLists_packLists_rows (s : NSeries α) (h : s.col.Clean) (hne : s.col.chunks ≠ [])
    (hn : (s.col.ty.map (·.1)).Nodup) :
    ∃ df s', s.toLists none = .ok df ∧ packLists df.index df.asChunks true = .ok s' ∧
      s'.index = s.index ∧
      s'.col.rows = s.col.rows.map fun r => some (r.getD (s.col.ty.map fun p => (p.1, []))) := by
  obtain ⟨df, s', h1, h2, h3, _, h5⟩ := toLists_packLists s h hne
  refine ⟨df, s', h1, h2, h3, ?_⟩
  rw [h5, ← PCol.rows_length, ← map_range_getD (fun r => some (r.getD (s.col.ty.map fun p => (p.1, [])))) s.col.rows none]
  refine List.map_congr_left fun i hi => ?_
  rw [lists_of_row s.col.ty s.col.rows hn (row_names s.col h.wf) i (List.mem_range.mp hi), List.getElem_eq_getD none]

/-- a chunk read without its validity: every row present -/
def PStruct.allValid (s : PStruct α) : PStruct α := { s with valid := List.replicate s.len true }

theorem kids_of_ty (c : PCol α) (hw : c.WF = true) (s : PStruct α) (hs : s ∈ c.chunks) :
    ((List.range c.ty.length).map fun j =>
      ({ name := (c.ty.getD j ("", "")).1, ty := (c.ty.getD j ("", "")).2,
         list := (s.kids.getD j ⟨"", "", ⟨[0], [], []⟩⟩).list } : PField α)) = s.kids := by
  rw [← (PCol.WF_iff.mp hw s hs).2, PStruct.ty, List.length_map]
  simp only [getD_map (fun k : PField α => (k.name, k.ty)) s.kids _ ⟨"", "", ⟨[0], [], []⟩⟩]
  exact (map_range_getD (fun k : PField α => (⟨k.name, k.ty, k.list⟩ : PField α)) s.kids _).trans (List.map_id'' (fun _ => rfl) _)

theorem structFromArrays_kids (s : PStruct α) (hw : s.WF = true) (hk : s.kids ≠ []) :
    structFromArrays s.kids none = .ok s.allValid :=
  structFromArrays_none_ok hk s.len fun _ hk' => (PStruct.WF_iff.mp hw _ hk').2

theorem ChunkClean.allValid {ty : List (String × String)} {s : PStruct α} (h : ChunkClean ty s) :
    ChunkClean ty s.allValid := by
  refine { wf := ?_, ty_eq := h.ty_eq, nullEmpty := h.nullEmpty, validated := h.validated, noHidden := ?_ }
  · refine PStruct.WF_iff.mpr fun k hk => ?_
    simpa only [PStruct.allValid, PStruct.len, List.length_replicate] using PStruct.WF_iff.mp h.wf k hk
  · intro i hi hv
    have hi' : i < s.len := by simpa [PStruct.allValid, PStruct.len] using hi
    simp [PStruct.allValid, List.getD_eq_getElem?_getD, hi'] at hv

/-- the column the list view round trip returns is itself `Clean` (nothing hidden: every row is present) -/
theorem allValid_clean {c : PCol α} (h : c.Clean) : (⟨c.ty, c.chunks.map PStruct.allValid⟩ : PCol α).Clean :=
  clean_of_chunks h.fields (List.forall_mem_map.mpr fun s hs => (h.chunkClean s hs).allValid)

/-- **`pack_lists` on the child list arrays `to_lists` hands out, chunk by chunk** (the physical path:
    same chunking for every field, raw windows into the old buffers, nothing copied): the result has
    the column's declared fields and chunk for chunk the SAME list arrays, every row present. -/
theorem packLists_fieldChunks (idx : List Label) (c : PCol α) (h : c.Clean) (hne : c.chunks ≠ []) :
    packLists idx (fieldChunks c) true = .ok ⟨idx, ⟨c.ty, c.chunks.map PStruct.allValid⟩⟩ := by
  have hty : (fieldChunks c).map (fun (x : String × String × List (PList α)) => (x.1, x.2.1)) = c.ty :=
    (List.map_map ..).trans ((map_range_getD (fun p => (p.1, p.2)) c.ty _).trans (List.map_id'' (fun _ => rfl) _))
  have hl : ∀ col ∈ fieldChunks c, col.2.2.map PList.len = c.chunks.map PStruct.len :=
    List.forall_mem_map.mpr fun j hj => (List.map_map ..).trans <| List.map_congr_left fun s hs => by
      -- a chunk has the declared fields, so its `j`-th child exists, and a child has the chunk's length
      have ⟨hws, htys⟩ := PCol.WF_iff.mp h.wf s hs
      have hj' : j < s.kids.length := PStruct.kids_length_of_ty htys ▸ List.mem_range.mp hj
      exact (PStruct.WF_iff.mp hws _ (getD_mem hj' _)).2
  -- the `?_` (second bullet): the struct built from the `i`-th list array of every column is the
  -- `i`-th chunk read without its validity
  rw [packLists_equal_chunking idx _ true _ (fun e => h.fields (by rw [← hty, e]; rfl)) hl, List.length_map,
    mapM_ok_of_forall (fun i => (c.chunks.getD i ⟨[], []⟩).allValid) fun i hi => ?_, map_range_getD]
  · simp only [hty, NArr.init_ok (by simpa using hne) (allValid_clean h).validated, Except.ok_bind, Except.pure_eq]
  · -- at chunk position `i` the columns hold the children of the `i`-th chunk
    have hs := getD_mem (List.mem_range.mp hi) (⟨[], []⟩ : PStruct α)
    obtain ⟨k0, ks, hk⟩ := h.kids_ne _ hs
    refine (congrArg (structFromArrays · none) ?_).trans
      (structFromArrays_kids _ (PCol.WF_iff.mp h.wf _ hs).1 (hk ▸ List.cons_ne_nil _ _))
    rw [← kids_of_ty c h.wf _ hs, fieldChunks, List.map_map]
    exact List.map_congr_left fun j _ => congrArg (PField.mk _ _) (getD_map _ c.chunks i ⟨[], []⟩)

/-- read without its validity, a chunk shows every missing row — which stores nothing — as a table of empty lists -/
theorem PStruct.allValid_rows (s : PStruct α) (hn : s.noHidden) :
    s.allValid.rows = s.rows.map fun r => some (r.getD (emptyTable s)) :=
  PStruct.rows_of_storedAt hn List.length_replicate fun _ hi => PStruct.rowAt_allValid hi

/-- on the physical path (`fieldChunks`) field names need not be distinct -/
theorem packLists_fieldChunks_rows (idx : List Label) (c : PCol α) (h : c.Clean) (hne : c.chunks ≠ []) :
    ∃ s', packLists idx (fieldChunks c) true = .ok s' ∧ s'.index = idx ∧ s'.col.ty = c.ty ∧
      s'.col.rows = c.chunks.flatMap fun s => s.rows.map fun r => some (r.getD (emptyTable s)) := by
  refine ⟨_, packLists_fieldChunks idx c h hne, rfl, rfl, ?_⟩
  rw [PCol.rows, List.flatMap_map]
  exact flatMap_congr fun s hs => PStruct.allValid_rows s (h.noHidden s hs)

/-- **`pack_seq` refuses ragged input**: one offered row that is not rectangular under the dtype is enough. -/
theorem packSeq_ragged (idx : List Label) (ty : List (String × String)) (rows : List (Row α))
    (r : Row α) (hr : r ∈ rows) (hrag : Row.rect (normRow ty r) = false) :
    packSeq idx ty rows = .error .valueError := by
  have hverr : (PStruct.ofScalars ty (rows.map (boxScalar ty))).validate = .error .valueError :=
    (PStruct.validate_cases _).resolve_left fun hv =>
      Bool.false_ne_true (hrag.symm.trans (ofScalars_validate_iff.mp hv r hr))
  simp only [packSeq, NArr.init, List.isEmpty_cons, Bool.false_eq_true, if_false, if_true, PCol.validate_single, hverr,
    Except.error_bind]

/-- **`to_lists()`** of a series on `Clean` storage (in words at `C03.to_lists_of_rows`). -/
theorem toLists_spec (s : NSeries α) (h : s.col.Clean) (hne : s.col.chunks ≠ []) :
    ∃ df, s.toLists none = .ok df ∧ df.index = s.index ∧ df.cols.map (·.1) = s.col.ty.map (·.1) ∧
      ∀ col ∈ df.cols, col.2.2.map (fun r => r.getD []) = Spec.fieldLists s.col.rows col.1 ∧
        col.2.2.length = s.col.len := by
  exact ⟨_, toLists_ok s.index h.wf hne h.fields, rfl, by simp [List.map_map, Function.comp_def],
    List.forall_mem_map.mpr fun p hp => listsOf_spec s.col h p.1 (field_of_ty hp)⟩

/-- the list view round trip does not see the layout -/
theorem listTrip_layout_independent (s₁ s₂ : NSeries α) (h₁ : s₁.col.Clean) (h₂ : s₂.col.Clean)
    (hne₁ : s₁.col.chunks ≠ []) (hne₂ : s₂.col.chunks ≠ [])
    (hty : s₁.col.ty = s₂.col.ty) (hrows : s₁.col.rows = s₂.col.rows) :
    ∃ df₁ p₁ df₂ p₂, s₁.toLists none = .ok df₁ ∧ packLists df₁.index df₁.asChunks true = .ok p₁ ∧
      s₂.toLists none = .ok df₂ ∧ packLists df₂.index df₂.asChunks true = .ok p₂ ∧
      p₁.col.rows = p₂.col.rows := by
  obtain ⟨df₁, p₁, a1, a2, _, _, a5⟩ := toLists_packLists s₁ h₁ hne₁
  obtain ⟨df₂, p₂, b1, b2, _, _, b5⟩ := toLists_packLists s₂ h₂ hne₂
  refine ⟨df₁, p₁, df₂, p₂, a1, a2, b1, b2, ?_⟩
  rw [a5, b5, hty, hrows, PCol.len_eq_of_rows hrows]

/-- `pack_lists` on list columns that do NOT share their chunking (packer.py: the columns are combined
    first): one chunk whose fields are the canonical re-encoding of each column's lists -/
theorem packLists_other_chunking (idx : List Label) (f0 : String) (fr : List String) (T : String → String)
    (C : String → List (PList α)) (n : Nat)
    (hdiff : (fr.map fun f => (C f).map PList.len).all (· == (C f0).map PList.len) = false)
    (hlen : ∀ f ∈ f0 :: fr, ((C f).flatMap PList.rows).length = n)
    (hal : ∀ f ∈ f0 :: fr, ((C f).flatMap PList.rows).map len0 = ((C f0).flatMap PList.rows).map len0) :
    packLists idx ((f0 :: fr).map fun f => (f, T f, C f)) true =
      .ok { index := idx,
            col := { ty := (f0 :: fr).map fun f => (f, T f),
                     chunks := [{ valid := List.replicate n true,
                                  kids := (f0 :: fr).map fun f => { name := f, ty := T f, list := PList.ofRows ((C f).flatMap PList.rows) } }] } } := by
  have ⟨h1, h2⟩ := packOne_ok (f0 :: fr) (List.cons_ne_nil _ _) id T (fun f => (C f).flatMap PList.rows) hlen
    (fun f hf g hg => (hal f hf).trans (hal g hg).symm) rfl
  unfold packLists
  simp only [List.map_cons, List.map_map, Function.comp_def, id_eq] at h1 h2 ⊢
  simp only [hdiff, Bool.false_eq_true, if_false, h1, Except.ok_bind, Except.pure_eq, h2]

theorem PStruct.allValid_allValid (s : PStruct α) : s.allValid.allValid = s.allValid := by
  simp [PStruct.allValid, PStruct.len]

end NP
