/-
  Field edits: what a successful `set_list_field` / `set_flat_field` / `fill_field_lists` returns — the old chunks,
  each with one field upserted to its window of the supplied list array — and the chunk-wise frame condition.
  First the list operation all upserts of the model share (`upsert`).
-/
import NPModel.Refine.ExceptLemmas
import NPModel.Refine.Struct
namespace NP
variable {α : Type}

/-- replace the entries that `p` picks by `y`, or append `y` when it picks none: the common shape of `upsertKid`,
    `Spec.tyUpsert`, `Spec.Table.upsert` and the column list of `NFrame.setCol` (`NFrame.setCol_cols`).  The first
    three unfold to `upsert (·.name == k.name)` resp. `upsert (·.1 == f)` by `rfl`, and the lemmas below are applied
    to them as they stand (`mem_upsert hk` for `hk : k ∈ upsertKid kids k'`). -/
def upsert {β : Type} (p : β → Bool) (l : List β) (y : β) : List β :=
  if l.any p then l.map fun a => if p a then y else a else l ++ [y]

theorem mem_upsert {β : Type} {p : β → Bool} {l : List β} {y x : β} (h : x ∈ upsert p l y) : x ∈ l ∨ x = y := by
  unfold upsert at h
  split at h
  · obtain ⟨a, ha, rfl⟩ := List.mem_map.mp h
    by_cases hp : p a = true
    · exact .inr (if_pos hp)
    · exact .inl (if_neg hp ▸ ha)
  · exact (List.mem_append.mp h).imp_right List.mem_singleton.mp

theorem upsert_ne_nil {β : Type} {p : β → Bool} {l : List β} {y : β} : upsert p l y ≠ [] := by
  unfold upsert
  split
  · rw [Ne, List.map_eq_nil_iff]
    rintro rfl
    contradiction
  · exact List.append_ne_nil_of_right_ne_nil _ (List.cons_ne_nil _ _)

theorem find?_upsert_other {β : Type} {p q : β → Bool} (l : List β) {y : β} (hy : q y = false)
    (hpq : ∀ a, p a = true → q a = false) : (upsert p l y).find? q = l.find? q := by
  unfold upsert
  split
  · clear ‹l.any p = true›
    induction l with
    | nil => rfl
    | cons a rest ih =>
      rw [List.map_cons, List.find?_cons, List.find?_cons, ih]
      by_cases ha : p a = true
      · rw [if_pos ha, hy, hpq a ha]
      · rw [if_neg ha]
  · rw [List.find?_append, List.find?_cons, hy, List.find?_nil, Option.or_none]

theorem find?_upsert_self {β : Type} {p : β → Bool} (l : List β) {y : β} (hy : p y = true) :
    (upsert p l y).find? p = some y := by
  unfold upsert
  split
  · rename_i h
    induction l with
    | nil => cases h
    | cons a rest ih =>
      rw [List.map_cons, List.find?_cons]
      by_cases ha : p a = true
      · rw [if_pos ha, hy]
      · rw [if_neg ha, Bool.eq_false_iff.mpr ha]
        exact ih (by rwa [List.any_cons, Bool.eq_false_iff.mpr ha, Bool.false_or] at h)
  · rename_i h
    rw [List.find?_append, List.find?_eq_none.mpr fun x hx hxn => h (List.any_eq_true.mpr ⟨x, hx, hxn⟩), Option.none_or,
      List.find?_cons, hy]

theorem map_upsert {β γ : Type} (g : β → γ) {p : β → Bool} {p' : γ → Bool} (hp : ∀ a, p' (g a) = p a) (l : List β) (y : β) :
    (upsert p l y).map g = upsert p' (l.map g) (g y) := by
  have hp' : p' ∘ g = p := funext hp
  unfold upsert
  rw [List.any_map, hp', apply_ite (List.map g), List.map_map, List.map_map, List.map_append]
  congr 2
  funext a
  rw [Function.comp, Function.comp, hp, apply_ite g]

theorem upsertKid_find_other (kids : List (PField α)) (k : PField α) (g : String) (hg : (k.name == g) = false) :
    (upsertKid kids k).find? (fun x => x.name == g) = kids.find? (fun x => x.name == g) :=
  find?_upsert_other kids hg fun _ ha => eq_of_beq ha ▸ hg

theorem upsertKid_find_self (kids : List (PField α)) (k : PField α) :
    (upsertKid kids k).find? (fun x => x.name == k.name) = some k :=
  find?_upsert_self kids (beq_self_eq_true _)

/-- what one chunk looks like after `set_list_field`: same validity, other fields identical,
    field `f` present with type `ty` (that its list array is the window of the supplied one is
    `C06.edited_field_holds_supplied_values`) -/
def FieldSet (f ty : String) (s s' : PStruct α) : Prop :=
  s'.valid = s.valid ∧
  (∀ g, (f == g) = false → s'.kid? g = s.kid? g) ∧
  ∃ l, s'.kid? f = some { name := f, ty := ty, list := l }

theorem FieldSet.valid_eq {f ty : String} {s s' : PStruct α} (h : FieldSet f ty s s') : s'.valid = s.valid := h.1

def setChunk (f ty : String) (s : PStruct α) (w : PList α) : PStruct α :=
  { valid := s.valid, kids := upsertKid s.kids { name := f, ty := ty, list := w } }

/-- the windows `pa_array[sl]` of the supplied list array, one per chunk -/
def windows (value : PList α) : List (PStruct α) → Nat → List (PList α)
  | [], _ => []
  | s :: rest, start => value.slice start s.len :: windows value rest (start + s.len)

theorem windows_length (value : PList α) : ∀ (chunks : List (PStruct α)) (start : Nat),
    (windows value chunks start).length = chunks.length
  | [], _ => rfl
  | _ :: rest, _ => congrArg (· + 1) (windows_length value rest _)

theorem setListField_go_inv {f ty : String} {value : PList α} :
    ∀ {chunks : List (PStruct α)} {start : Nat} {out : List (PStruct α)},
      NArr.setListField.go f ty value chunks start = .ok out →
      out = List.zipWith (setChunk f ty) chunks (windows value chunks start)
  | [], _, _, h => (Except.ok.inj h).symm
  | s :: rest, start, out, h => by
    obtain ⟨s', hs', h⟩ := Except.bind_eq_ok.mp h
    obtain ⟨rest', hr', h⟩ := Except.bind_eq_ok.mp h
    cases h
    rw [(structFromArrays_some_inv hs').1, setListField_go_inv hr']
    rfl

theorem setListField_inv {c c' : PCol α} {f ty : String} {value : PList α} {keep : Bool}
    (h : NArr.setListField c f ty value keep = .ok c') :
    c' = { ty := Spec.tyUpsert c.ty f ty
           chunks := List.zipWith (setChunk f ty) c.chunks (windows value c.chunks 0) } ∧
    value.len = c.len ∧ c'.validate = .ok () := by
  simp only [NArr.setListField, exc] at h
  obtain ⟨_, -, -, hl, chunks, hgo, hv, rfl⟩ := h
  rw [setListField_go_inv hgo] at hv ⊢
  exact ⟨rfl, Decidable.not_not.mp hl, hv⟩

/-- the flat values `set_flat_field` stores: one value for all `fl` records, or the array as it is -/
def FlatVal.values (fl : Nat) : FlatVal α → List α
  | .scalar x => List.replicate fl x
  | .array xs => xs

/-- `set_flat_field` is `set_list_field` of the all-valid list array that cuts the values at the column's offsets -/
theorem setFlatField_inv {c c' : PCol α} {f ty : String} {v : FlatVal α} {keep : Bool}
    (h : NArr.setFlatField c f ty v keep = .ok c') :
    ∃ fl offs, NArr.flatLength c = .ok fl ∧ NArr.listOffsets c = .ok offs ∧ (v.values fl).length = fl ∧
      NArr.setListField c f ty (PList.view offs (v.values fl)) keep = .ok c' := by
  simp only [NArr.setFlatField, exc] at h
  obtain ⟨_, -, -, fl, hfl, hxl, offs, hoffs, la, hla, h⟩ := h
  rw [listFromArrays_inv hla] at h
  exact ⟨fl, offs, hfl, hoffs, Decidable.not_not.mp hxl, h⟩

theorem fillFieldLists_inv {c c' : PCol α} {f ty : String} {vs : List α} {keep : Bool}
    (h : NArr.fillFieldLists c f ty vs keep = .ok c') :
    vs.length = c.len ∧ ∃ ls, NArr.listLengths c = .ok ls ∧
      NArr.setFlatField c f ty (.array (repeatEach vs ls)) keep = .ok c' := by
  simpa only [NArr.fillFieldLists, exc, ne_eq, Decidable.not_not] using h

theorem fieldSet_setChunk (f ty : String) (s : PStruct α) (w : PList α) : FieldSet f ty s (setChunk f ty s w) :=
  ⟨rfl, fun g hg => upsertKid_find_other s.kids _ g hg, w,
    upsertKid_find_self s.kids { name := f, ty := ty, list := w }⟩

/-- `set_list_field` as a whole: whatever it accepts, chunk by chunk the validity and all other
    fields are untouched and field `f` holds some list array -/
theorem setListField_chunks {c c' : PCol α} {f ty : String} {value : PList α} {keep : Bool}
    (h : NArr.setListField c f ty value keep = .ok c') :
    All2 (FieldSet f ty) c.chunks c'.chunks := by
  rw [(setListField_inv h).1]
  exact All2.zipWith_right (fieldSet_setChunk f ty) _ _ (windows_length value _ _)

theorem setFlatField_chunks {c c' : PCol α} {f ty : String} {value : FlatVal α} {keep : Bool}
    (h : NArr.setFlatField c f ty value keep = .ok c') :
    All2 (FieldSet f ty) c.chunks c'.chunks := by
  obtain ⟨_, _, _, _, _, h'⟩ := setFlatField_inv h
  exact setListField_chunks h'

theorem fillFieldLists_chunks {c c' : PCol α} {f ty : String} {value : List α} {keep : Bool}
    (h : NArr.fillFieldLists c f ty value keep = .ok c') :
    All2 (FieldSet f ty) c.chunks c'.chunks := by
  obtain ⟨_, _, _, h'⟩ := fillFieldLists_inv h
  exact setFlatField_chunks h'

theorem isna_of_valid_eq {c c' : PCol α} (h : c'.chunks.map (·.valid) = c.chunks.map (·.valid)) :
    NArr.isna c' = NArr.isna c :=
  calc NArr.isna c' = (c'.chunks.map (·.valid)).flatMap (·.map (!·)) := (List.flatMap_map ..).symm
    _ = (c.chunks.map (·.valid)).flatMap (·.map (!·)) := by rw [h]
    _ = NArr.isna c := List.flatMap_map ..

theorem len_of_valid_eq {c c' : PCol α} (h : c'.chunks.map (·.valid) = c.chunks.map (·.valid)) :
    c'.len = c.len := by
  show sumNat (c'.chunks.map (List.length ∘ (·.valid))) = sumNat (c.chunks.map (List.length ∘ (·.valid)))
  rw [← List.map_map, ← List.map_map, h]

end NP
