/-
  The storage invariant `PCol.Clean` is re-established by the value kernels: a canonical chunk is well formed and
  null-empty, so it is clean once validated with nothing hidden (`ChunkClean.of_canonical`); `combine_chunks` and
  `take` keep a clean chunk clean.
-/
import NPModel.Refine.Observers
import NPModel.Refine.Take
namespace NP
variable {α : Type}

theorem PList.ofRows_WF (rows : List (Option (List α))) : (PList.ofRows rows).WF = true := by
  refine PList.WF_iff.mpr ⟨?_, monotone_offsetsFrom, ?_⟩
  · simp only [PList.ofRows, offsetsFrom_length, List.length_map]
  · simp only [PList.ofRows, offsetsFrom_last, Nat.zero_add, length_flatten_sumNat, List.map_map]
    exact Nat.le_refl _

theorem PList.ofRows_nullEmpty (rows : List (Option (List α))) : (PList.ofRows rows).nullEmpty = true := by
  unfold PList.nullEmpty PList.ofRows
  simp only [diffs_offsetsFrom, List.zip_map', List.all_map, List.all_eq_true]
  intro r _
  cases r <;> rfl

theorem canonical_WF (s : PStruct α) (hc : s.canonical) (hl : ∀ k ∈ s.kids, k.list.rows.length = s.len) :
    s.WF = true ∧ s.nullEmpty = true := by
  constructor
  · refine PStruct.WF_iff.mpr fun k hk => ?_
    obtain ⟨r, hr⟩ := hc k hk
    have := hl k hk
    rw [hr, PList.ofRows_rows] at this
    rw [hr, PList.ofRows_len, this]
    exact ⟨PList.ofRows_WF r, rfl⟩
  · unfold PStruct.nullEmpty
    rw [List.all_eq_true]
    intro k hk
    obtain ⟨r, hr⟩ := hc k hk
    rw [hr]
    exact PList.ofRows_nullEmpty r

/-- what `take(allow_fill=True)` with a missing fill value returns, when it returns: one fresh
    chunk gathered from the combined chunks -/
theorem take_none_chunk (c : PCol α) (indices : List Int) (c' : PCol α)
    (h : NArr.take c indices true none = .ok c') :
    c' = { c with chunks := [c.combine.take (indices.map fun i => if i < 0 then none else some i.toNat)] } := by
  rw [(NArr.take_inv h).1, takeChunk]
  by_cases hneg : indices.any (· < 0) = true
  · -- `boxScalar _ none = none`, and `fillMasked` with no fill value is its last argument
    rw [if_pos hneg]
    rfl
  · -- no negative position: the masked positions are the plain ones
    rw [if_neg hneg, List.map_congr_left fun i hi =>
      if_neg fun hlt => hneg (List.any_eq_true.mpr ⟨i, hi, decide_eq_true hlt⟩)]

theorem PCol.combine_noHidden (c : PCol α) (hw : c.WF = true) (hn : ∀ s ∈ c.chunks, s.noHidden) :
    c.combine.noHidden := by
  intro i hi hv k hk
  obtain ⟨j, hj, rfl⟩ := List.mem_map.mp hk
  show len0 ((PList.ofRows (c.chunks.flatMap fun ch => ch.kidRows j)).rows.getD i none) = 0
  rw [PList.ofRows_rows]
  -- position `i` falls into one chunk, at the same offset in the validity and in field `j`
  have key : ∀ (chunks : List (PStruct α)), (∀ s ∈ chunks, s ∈ c.chunks) → ∀ i,
      i < (chunks.flatMap (·.valid)).length → (chunks.flatMap (·.valid)).getD i false = false →
      len0 ((chunks.flatMap fun ch => ch.kidRows j).getD i none) = 0 := by
    intro chunks
    induction chunks with
    | nil => intro _ i hlt; cases hlt
    | cons s rest ih =>
      intro hsub i hlt hvi
      have hs : s ∈ c.chunks := hsub s List.mem_cons_self
      have hjk : j < s.kids.length := PStruct.kids_length_of_ty (PCol.WF_iff.mp hw s hs).2 ▸ List.mem_range.mp hj
      have hlen : (s.kidRows j).length = s.valid.length := PStruct.kidRows_length (PCol.WF_iff.mp hw s hs).1 j hjk
      rw [List.flatMap_cons] at hvi hlt ⊢
      by_cases h1 : i < s.valid.length
      · rw [getD_append_left h1] at hvi
        rw [getD_append_left (hlen ▸ h1), s.kidRows_of_get j (List.getElem?_eq_getElem hjk)]
        exact hn s hs i h1 hvi _ (List.getElem_mem hjk)
      · have h1 := Nat.le_of_not_lt h1
        rw [getD_append_right h1] at hvi
        rw [getD_append_right (hlen ▸ h1), hlen]
        refine ih (fun s' hs' => hsub s' (List.mem_cons_of_mem _ hs')) _ ?_ hvi
        rw [List.length_append] at hlt
        exact Nat.sub_lt_left_of_lt_add h1 hlt
  exact key c.chunks (fun _ hs => hs) i hi hv

theorem PStruct.take_noHidden (s : PStruct α) (hn : s.noHidden) (hl : ∀ k ∈ s.kids, k.list.rows.length = s.len)
    (idx : List (Option Nat)) : (s.take idx).noHidden := by
  intro i hi hv k hk
  rw [PStruct.take_len] at hi
  obtain ⟨k0, hk0, rfl⟩ := List.mem_map.mp hk
  -- row `i` is gathered from position `idx[i]`, in the validity and in every field alike
  simp only [PStruct.take, PList.take, PList.ofRows_rows, gather, List.getD_eq_getElem?_getD, List.getElem?_map,
    List.getElem?_eq_getElem hi, Option.map_some, Option.getD_some] at hv ⊢
  generalize idx[i] = o at hv ⊢
  rcases o with _ | j
  · rfl
  simp only [Option.bind_some] at hv ⊢
  by_cases hj : j < s.len
  · have := hn j hj (by rwa [List.getD_eq_getElem?_getD]) k0 hk0
    rwa [List.getD_eq_getElem?_getD, getD_none_eq_join] at this
  · rw [List.getElem?_eq_none (by rw [hl k0 hk0]; exact Nat.le_of_not_lt hj)]
    rfl

/-- **what every value kernel returns is clean as soon as it is validated and hides nothing**: in the
    canonical fresh layout well-formedness and "null ⇒ empty extent" come for free -/
theorem ChunkClean.of_canonical {s : PStruct α} (hc : s.canonical) (hl : ∀ k ∈ s.kids, k.list.rows.length = s.len)
    (hv : s.validate = .ok ()) (hh : s.noHidden) : ChunkClean s.ty s :=
  have ⟨hw, hne⟩ := canonical_WF s hc hl
  { wf := hw, ty_eq := rfl, nullEmpty := hne, validated := hv, noHidden := hh }

theorem PStruct.take_chunkClean {ty : List (String × String)} {s : PStruct α} (h : ChunkClean ty s)
    (idx : List (Option Nat)) : ChunkClean ty (s.take idx) := by
  have := ChunkClean.of_canonical (PStruct.take_canonical s idx)
    (fun k hk => by rw [PStruct.take_kid_rows_length k hk, PStruct.take_len])
    (PStruct.take_validate h.aligned idx)
    (PStruct.take_noHidden s h.noHidden (fun k hk => PStruct.kid_rows_length h.wf hk) idx)
  rwa [PStruct.take_ty, h.ty_eq] at this

theorem PCol.combine_chunkClean {c : PCol α} (hc : c.Clean) : ChunkClean c.ty c.combine := by
  have hl : ∀ k ∈ c.combine.kids, k.list.rows.length = c.combine.len := fun k hk => by
    rw [PCol.combine_kid_rows_length hc.wf k hk, PCol.combine_len]
  have := ChunkClean.of_canonical (PCol.combine_canonical c) hl
    ((PStruct.canonical_validate_iff _ (PCol.combine_canonical c)).mpr
      (PCol.combine_aligned hc.wf hc.aligned))
    (PCol.combine_noHidden c hc.wf hc.noHidden)
  rwa [PCol.combine_ty] at this

theorem PCol.take_clean {c : PCol α} (hc : c.Clean) (idx : List (Option Nat)) :
    (c.take idx).Clean ∧ (c.take idx).len = idx.length ∧ (c.take idx).chunks ≠ [] :=
  ⟨clean_of_chunks hc.fields (List.forall_mem_singleton.mpr (PStruct.take_chunkClean (PCol.combine_chunkClean hc) idx)),
   by simp [PCol.take, PCol.len, sumNat, PStruct.take_len], List.cons_ne_nil _ _⟩

/-- **`take` with a missing fill value re-establishes the storage invariant**: from a clean column
    (any chunking, offsets, buffers) it returns a clean column — one fresh chunk, canonical layout,
    validated, nothing hidden under missing rows — with one row per requested position and the
    same declared fields. -/
theorem take_none_clean (c : PCol α) (hc : c.Clean) (indices : List Int) (c' : PCol α)
    (h : NArr.take c indices true none = .ok c') :
    c'.Clean ∧ c'.len = indices.length ∧ c'.ty = c.ty ∧ c'.chunks ≠ [] := by
  rw [take_none_chunk c indices c' h]
  have ⟨h1, h2, h3⟩ := PCol.take_clean hc (indices.map fun i => if i < 0 then none else some i.toNat)
  exact ⟨h1, h2.trans (List.length_map _), rfl, h3⟩

end NP
