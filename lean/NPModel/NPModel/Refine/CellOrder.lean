/-
  The order the model's `sort_values` is run with (`cellLt`: numbers by value with NaN above every
  number, strings by code points, booleans, timestamps) is a strict weak order on the cells of any
  column of one kind, so `KeysOrdered cellLt` holds of every key column the property list quantifies over.
-/
import NPModel.Refine.SortOrder
namespace NP

/-- `Val.lt` on two comparable values that are not NaN is `cmpOrd .lt (compare _ _)` by unfolding;
    this turns it into the decision of the order the comparison reflects. -/
theorem cmpOrd_lt_of {c : Ordering} {p : Prop} [Decidable p] (h : c = .lt ↔ p) : cmpOrd .lt c = decide p := by
  cases c
  · exact (decide_eq_true (h.mp rfl)).symm
  · exact (decide_eq_false fun hp => nomatch h.mpr hp).symm
  · exact (decide_eq_false fun hp => nomatch h.mpr hp).symm

/-- numbers (with NaN), strings, booleans, timestamps -/
def Val.kind : Val → Nat
  | .int _ | .flt _ | .nan => 0
  | .str _ => 1
  | .bool _ => 2
  | .ts _ => 3

theorem lt_int_int (x y : Int) : Val.lt (.int x) (.int y) = decide (x < y) :=
  cmpOrd_lt_of (Int.compare_eq_lt.trans (Int.mul_lt_mul_left (by decide)))
theorem lt_int_flt (x t : Int) : Val.lt (.int x) (.flt t) = decide (2 * x < t) :=
  cmpOrd_lt_of Int.compare_eq_lt
theorem lt_flt_int (t y : Int) : Val.lt (.flt t) (.int y) = decide (t < 2 * y) :=
  cmpOrd_lt_of Int.compare_eq_lt
theorem lt_flt_flt (s t : Int) : Val.lt (.flt s) (.flt t) = decide (s < t) :=
  cmpOrd_lt_of Int.compare_eq_lt
theorem lt_nan (y : Val) : Val.lt .nan y = false := by cases y <;> rfl
theorem lt_int_nan (x : Int) : Val.lt (.int x) .nan = true := rfl
theorem lt_flt_nan (x : Int) : Val.lt (.flt x) .nan = true := rfl
theorem lt_str_str (x y : String) : Val.lt (.str x) (.str y) = decide (x < y) :=
  cmpOrd_lt_of compareOfLessAndEq_eq_lt
theorem lt_bool_bool (x y : Bool) : Val.lt (.bool x) (.bool y) = decide (x.toNat < y.toNat) :=
  cmpOrd_lt_of Nat.compare_eq_lt
theorem lt_ts_ts (x y : Int) : Val.lt (.ts x) (.ts y) = decide (x < y) :=
  cmpOrd_lt_of Int.compare_eq_lt

/-- numbers by (is NaN, twice the value), booleans and timestamps by value: the order of every kind
    but the strings is the lexicographic order of this pair of integers.  `.flt t` stands for `t / 2`
    (`Val.flt (twice : Int)`), hence `2 * i` for an integer, here and in `lt_int_flt`, `lt_flt_int`. -/
def Val.rank : Val → Int × Int
  | .nan => (1, 0)
  | .int i => (0, 2 * i)
  | .flt t => (0, t)
  | .bool b => (0, b.toNat)
  | .ts t => (0, t)
  | .str _ => (0, 0)

theorem lex_snd_iff (k : Int) {p : Prop} : p ↔ k < k ∨ k = k ∧ p :=
  ⟨fun h => .inr ⟨rfl, h⟩, fun h => h.elim (fun h => absurd h (Int.lt_irrefl k)) (·.2)⟩

theorem Val.lt_eq_rank {x y : Val} (hk : x.kind = y.kind) (hs : x.kind ≠ 1) :
    Val.lt x y = decide (x.rank.1 < y.rank.1 ∨ (x.rank.1 = y.rank.1 ∧ x.rank.2 < y.rank.2)) := by
  cases x <;> cases y
  case str.str => exact absurd rfl hs
  -- no NaN: the first components agree and `Val.lt` is the comparison of the second ones
  case int.int | int.flt | flt.int | flt.flt | ts.ts => exact cmpOrd_lt_of (Int.compare_eq_lt.trans (lex_snd_iff 0))
  case bool.bool => exact cmpOrd_lt_of (Nat.compare_eq_lt.trans (Int.ofNat_lt.symm.trans (lex_snd_iff 0)))
  -- a NaN: both sides evaluate
  case nan.nan | nan.int | nan.flt | int.nan | flt.nan => rfl
  -- the other pairs are of two kinds
  all_goals cases hk

theorem kind_one (x : Val) (h : x.kind = 1) : ∃ s, x = .str s := by
  cases x <;> first | exact ⟨_, rfl⟩ | cases h

theorem Val.lt_asymm {x y : Val} (hk : x.kind = y.kind) (h : Val.lt x y = true) : Val.lt y x = false := by
  by_cases hs : x.kind = 1
  · obtain ⟨a, rfl⟩ := kind_one x hs
    obtain ⟨b, rfl⟩ := kind_one y (hk ▸ hs)
    simp only [lt_str_str, decide_eq_true_eq, decide_eq_false_iff_not] at h ⊢
    exact String.lt_asymm h
  · rw [Val.lt_eq_rank hk hs] at h
    rw [Val.lt_eq_rank hk.symm (hk ▸ hs)]
    simp only [decide_eq_true_eq, decide_eq_false_iff_not] at h ⊢
    omega

theorem Val.lt_negtrans {x y z : Val} (h1 : x.kind = y.kind) (h2 : y.kind = z.kind)
    (hxy : Val.lt x y = false) (hyz : Val.lt y z = false) : Val.lt x z = false := by
  by_cases hs : x.kind = 1
  · obtain ⟨a, rfl⟩ := kind_one x hs
    obtain ⟨b, rfl⟩ := kind_one y (h1 ▸ hs)
    obtain ⟨c, rfl⟩ := kind_one z (h2 ▸ h1 ▸ hs)
    simp only [lt_str_str, decide_eq_false_iff_not] at hxy hyz ⊢
    rw [String.not_lt] at hxy hyz ⊢
    exact String.le_trans hyz hxy
  · rw [Val.lt_eq_rank h1 hs] at hxy
    rw [Val.lt_eq_rank h2 (h1 ▸ hs)] at hyz
    rw [Val.lt_eq_rank (h1.trans h2) hs]
    simp only [decide_eq_false_iff_not] at hxy hyz ⊢
    omega

theorem cellLt_strictWeakOn {S : Cell → Prop} (k : Nat) (hk : ∀ v, S v → ∃ x, v = some x ∧ x.kind = k) :
    StrictWeakOn S cellLt := by
  constructor
  · intro a b sa sb hab
    obtain ⟨x, rfl, hx⟩ := hk a sa
    obtain ⟨y, rfl, hy⟩ := hk b sb
    exact Val.lt_asymm (hx.trans hy.symm) hab
  · intro a b c sa sb sc hab hbc
    obtain ⟨x, rfl, hx⟩ := hk a sa
    obtain ⟨y, rfl, hy⟩ := hk b sb
    obtain ⟨z, rfl, hz⟩ := hk c sc
    exact Val.lt_negtrans (hx.trans hy.symm) (hy.trans hz.symm) hab hbc

/-- a column of cells of one kind (nulls allowed) -/
def ColOneKind (v : List Cell) : Prop := ∃ k, ∀ x, some x ∈ v → x.kind = k

end NP
