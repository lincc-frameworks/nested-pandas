/-
  NPModel.Refine.Masks — boolean masks: `filterBy` (pyarrow `filter`) is core's `zip`/`filter`,
  `nonzeroFrom` (numpy `nonzero`) lists the positions it keeps.
-/
import NPModel.Refine.Segs
namespace NP
variable {β γ : Type}

@[simp] theorem nonzeroFrom_nil (b : Nat) : nonzeroFrom b [] = [] := rfl
@[simp] theorem nonzeroFrom_true (b : Nat) (bs : List Bool) : nonzeroFrom b (true :: bs) = b :: nonzeroFrom (b + 1) bs := rfl
@[simp] theorem nonzeroFrom_false (b : Nat) (bs : List Bool) : nonzeroFrom b (false :: bs) = nonzeroFrom (b + 1) bs := rfl

theorem nonzeroFrom_replicate_false (b n : Nat) (X : List Bool) :
    nonzeroFrom b (List.replicate n false ++ X) = nonzeroFrom (b + n) X := by
  induction n generalizing b with
  | zero => simp
  | succ n ih =>
    rw [List.replicate_succ, List.cons_append, nonzeroFrom_false, ih, Nat.add_assoc, Nat.add_comm 1]

@[simp] theorem filterBy_nil_left (xs : List γ) : filterBy [] xs = [] := by cases xs <;> rfl
@[simp] theorem filterBy_nil_right (m : List Bool) : filterBy m ([] : List γ) = [] := by cases m <;> rfl
@[simp] theorem filterBy_cons_true (m : List Bool) (x : γ) (xs : List γ) :
    filterBy (true :: m) (x :: xs) = x :: filterBy m xs := rfl
@[simp] theorem filterBy_cons_false (m : List Bool) (x : γ) (xs : List γ) :
    filterBy (false :: m) (x :: xs) = filterBy m xs := rfl

theorem filterBy_eq_zip : ∀ (m : List Bool) (xs : List β), filterBy m xs = ((m.zip xs).filter (·.1)).map (·.2)
  | [], _ => by simp
  | _ :: _, [] => by simp
  | b :: m, x :: xs => by cases b <;> simp [filterBy_eq_zip m xs]

theorem filterBy_append {m₁ m₂ : List Bool} {x₁ x₂ : List γ} (h : m₁.length = x₁.length) :
    filterBy (m₁ ++ m₂) (x₁ ++ x₂) = filterBy m₁ x₁ ++ filterBy m₂ x₂ := by
  simp only [filterBy_eq_zip, List.zip_append h, List.filter_append, List.map_append]

theorem filterBy_eq_filter (p : β → Bool) : ∀ (xs : List β), filterBy (xs.map p) xs = xs.filter p
  | [] => rfl
  | x :: xs => by
    cases h : p x <;> simp [h, filterBy_eq_filter p xs]

theorem mem_of_mem_filterBy {m : List Bool} {xs : List β} {x : β} (h : x ∈ filterBy m xs) : x ∈ xs := by
  rw [filterBy_eq_zip] at h
  obtain ⟨p, hp, rfl⟩ := List.mem_map.mp h
  exact (List.of_mem_zip (List.mem_filter.mp hp).1).2

theorem filterBy_length_take : ∀ (m : List Bool) (xs : List β),
    (filterBy m xs).length = ((m.take xs.length).filter id).length
  | [], _ => by simp
  | _ :: _, [] => by simp
  | b :: m, x :: xs => by cases b <;> simp [filterBy_length_take m xs]

theorem filterBy_length_le {β : Type} : ∀ (m : List Bool) (xs : List β), (filterBy m xs).length ≤ xs.length := by
  intro m xs
  rw [filterBy_length_take]
  exact Nat.le_trans (List.length_filter_le _ _) (by rw [List.length_take]; exact Nat.min_le_left _ _)

theorem filterBy_length {m : List Bool} {xs : List β} (h : m.length = xs.length) :
    (filterBy m xs).length = (m.filter id).length := by
  rw [filterBy_length_take, ← h, List.take_length]

theorem filterBy_length_eq {m : List Bool} {xs : List β} {ys : List γ} (h : xs.length = ys.length) :
    (filterBy m xs).length = (filterBy m ys).length := by
  rw [filterBy_length_take, filterBy_length_take, h]

theorem filterBy_replicate (m : List Bool) (k : γ) :
    filterBy m (List.replicate m.length k) = List.replicate (m.filter id).length k :=
  List.eq_replicate_iff.mpr ⟨filterBy_length (by simp), fun _ hx =>
    List.eq_of_mem_replicate (mem_of_mem_filterBy hx)⟩

theorem filterBy_replicate_false (n : Nat) (xs : List γ) : filterBy (List.replicate n false) xs = [] := by
  rw [filterBy_eq_zip, List.map_eq_nil_iff, List.filter_eq_nil_iff]
  intro p hp
  simp [(List.mem_replicate.mp (List.of_mem_zip hp).1).2]

theorem mem_nonzeroFrom {m : List Bool} {s x : Nat} :
    x ∈ nonzeroFrom s m ↔ ∃ i, i < m.length ∧ m.getD i false = true ∧ x = s + i := by
  induction m generalizing s with
  | nil => simp [nonzeroFrom]
  | cons b m ih =>
    have ih' := ih (s := s + 1)
    simp only [Nat.add_assoc, Nat.add_comm 1] at ih'
    rw [List.length_cons, Nat.exists_lt_succ_left]
    simp only [List.getD_cons_zero, List.getD_cons_succ, Nat.add_zero, ← ih']
    cases b <;> simp [nonzeroFrom]

theorem nonzeroFrom_ge (m : List Bool) (s : Nat) : ∀ x ∈ nonzeroFrom s m, s ≤ x := fun x hx => by
  obtain ⟨i, _, _, rfl⟩ := mem_nonzeroFrom.mp hx
  exact Nat.le_add_right _ _

theorem nonzeroFrom_pairwise : ∀ (m : List Bool) (s : Nat), (nonzeroFrom s m).Pairwise (· < ·) := by
  intro m
  induction m with
  | nil => intro _; exact List.Pairwise.nil
  | cons b m ih =>
    intro s
    cases b
    · exact ih (s + 1)
    · exact List.pairwise_cons.mpr ⟨fun x hx => nonzeroFrom_ge m (s + 1) x hx, ih (s + 1)⟩

theorem nonzeroFrom_length : ∀ (m : List Bool) (s : Nat), (nonzeroFrom s m).length = (m.filter id).length
  | [], _ => rfl
  | true :: m, s => congrArg (· + 1) (nonzeroFrom_length m (s + 1))
  | false :: m, s => nonzeroFrom_length m (s + 1)

/-- numpy `nonzero` then indexing is pyarrow `filter`: the kept positions read the kept elements,
    whatever `g` reads a fetched `some x` back as `x` -/
theorem map_getElem?_nonzeroFrom (g : Option β → β) (hg : ∀ x, g (some x) = x) :
    ∀ (m : List Bool) (xs pre : List β), m.length = xs.length →
      (nonzeroFrom pre.length m).map (fun o => g (pre ++ xs)[o]?) = filterBy m xs
  | [], xs, _, _ => by simp
  | _ :: _, [], _, h => by simp at h
  | b :: m, x :: xs, pre, h => by
    have ih := map_getElem?_nonzeroFrom g hg m xs (pre ++ [x]) (Nat.succ.inj h)
    rw [List.length_append, List.length_singleton, List.append_assoc, List.singleton_append] at ih
    cases b
    · rw [nonzeroFrom_false, filterBy_cons_false, ih]
    · rw [nonzeroFrom_true, filterBy_cons_true, List.map_cons, ih, List.getElem?_append_right (Nat.le_refl _),
        Nat.sub_self, List.getElem?_cons_zero, hg]

theorem map_getD_nonzeroFrom (d : β) (m : List Bool) (xs : List β) (h : m.length = xs.length) :
    (nonzeroFrom 0 m).map (fun o => xs.getD o d) = filterBy m xs :=
  map_getElem?_nonzeroFrom (·.getD d) (fun _ => rfl) m xs [] h

theorem map_gather_nonzeroFrom {m : List Bool} {xs : List β} (h : xs.length = m.length) {g : Option β → β}
    (hg : ∀ x, g (some x) = x) : (gather ((nonzeroFrom 0 m).map some) xs).map g = filterBy m xs := by
  rw [gather, List.map_map, List.map_map]
  exact map_getElem?_nonzeroFrom g hg m xs [] h.symm

end NP
