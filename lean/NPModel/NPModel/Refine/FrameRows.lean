/-
  Frame-level operations row by row, end to end through the implementation model: what `NestedFrame.reduce` hands
  to the user function and what `count_nested` counts (C10); what `frame['nest.f'] = values` and
  `eval("nest.f = expr")` store (C13, C06).
-/
import NPModel.Refine.FieldRows
import NPModel.Refine.FrameLemmas
namespace NP
variable {α : Type}

/-- what a requested column hands to the function at row `i` -/
def reduceArg (F : NFrame α) (col : Option String × String) (i : Nat) (d : α) : RArg α → Prop := fun a =>
  match col.1 with
  | none => ∃ t v, F.col? col.2 = some (.base t v) ∧ a = .scalar (v.getD i d)
  | some l => ∃ c r, F.nest? l = .ok c ∧ a = .array r ∧ r.getD [] = (Spec.fieldLists c.rows col.2).getD i []

/-- a request the theorem covers: a base column with one value per row, or a field of a cleanly
    stored nested column with one row per frame row -/
def reduceColOK (F : NFrame α) (col : Option String × String) : Prop :=
  match col.1 with
  | none => ∃ t v, F.col? col.2 = some (.base t v) ∧ v.length = F.index.length
  | some l => ∃ c, F.nest? l = .ok c ∧ c.Clean ∧ c.ty.any (·.1 == col.2) = true ∧ c.len = F.index.length

/-- `reduce` zips the requested iterators: as many calls as the shortest of them has entries, at most one per row -/
theorem reduceCalls_eq_ok {F : NFrame α} {cols : List (Option String × String)} {d : α} {calls : List (List (RArg α))} :
    F.reduceCalls cols d = .ok calls ↔ cols ≠ [] ∧ ∃ iters, All2 (fun col it => F.reduceIter col = .ok it) cols iters ∧
      (List.range ((iters.map List.length).foldl min F.index.length)).map
        (fun i => iters.map fun it => it.getD i (.scalar d)) = calls := by
  simp only [NFrame.reduceCalls, exc, mapM_eq_ok, List.isEmpty_iff, ne_eq]

theorem foldl_min_eq {n : Nat} : ∀ {l : List Nat}, (∀ x ∈ l, x = n) → l.foldl min n = n
  | [], _ => rfl
  | a :: l, h => by
    simp only [List.foldl_cons, h a List.mem_cons_self, Nat.min_self]
    exact foldl_min_eq (fun x hx => h x (List.mem_cons_of_mem _ hx))

theorem reduceIter_rows {F : NFrame α} {col : Option String × String} (d : α) (h : reduceColOK F col) :
    ∃ it, F.reduceIter col = .ok it ∧ it.length = F.index.length ∧
      ∀ i, i < F.index.length → reduceArg F col i d (it.getD i (.scalar d)) := by
  obtain ⟨layer, name⟩ := col
  cases layer with
  | none =>
    obtain ⟨t, v, hv, hl⟩ := h
    refine ⟨v.map RArg.scalar, by simp only [NFrame.reduceIter, hv]; rfl, by rw [List.length_map, hl], fun i hi => ?_⟩
    exact ⟨t, v, hv, getD_map RArg.scalar v i d⟩
  | some l =>
    obtain ⟨c, hc, hclean, hf, hl⟩ := h
    obtain ⟨ls, hls, hlists, hlen⟩ := iterFieldLists_refines hclean hf
    refine ⟨ls.map RArg.array, by simp only [NFrame.reduceIter, hc, hls, exc], by rw [List.length_map, hlen, hl],
      fun i hi => ?_⟩
    have hi' : i < ls.length := hlen ▸ hl ▸ hi
    have hli := List.getElem?_eq_getElem hi'
    refine ⟨c, ls[i]'hi', hc, ?_, ?_⟩
    · rw [List.getD_eq_getElem?_getD, List.getElem?_map, hli]
      rfl
    · rw [← hlists, List.getD_eq_getElem?_getD, List.getElem?_map, hli]
      rfl

theorem reduceCalls_rows (F : NFrame α) (cols : List (Option String × String)) (d : α)
    (hne : cols ≠ []) (hok : ∀ col ∈ cols, reduceColOK F col) :
    ∃ calls, F.reduceCalls cols d = .ok calls ∧ calls.length = F.index.length ∧
      ∀ i, i < F.index.length → ∀ (j : Nat) (col : Option String × String), cols[j]? = some col →
        ∃ a, (calls.getD i [])[j]? = some a ∧ reduceArg F col i d a := by
  obtain ⟨iters, hall⟩ := All2.of_forall_exists fun col hcol => reduceIter_rows d (hok col hcol)
  -- all iterators have one entry per row, so `zip` stops at none of them
  have hn : (iters.map List.length).foldl min F.index.length = F.index.length :=
    foldl_min_eq fun x hx => by
      obtain ⟨it, hit, rfl⟩ := List.mem_map.mp hx
      obtain ⟨_, _, hr⟩ := hall.mem_right it hit
      exact hr.2.1
  refine ⟨_, reduceCalls_eq_ok.mpr ⟨hne, iters, hall.mono fun _ _ _ _ h => h.1, rfl⟩, by
    rw [hn, List.length_map, List.length_range], fun i hi j col hj => ?_⟩
  have hj' : j < iters.length := hall.length_eq ▸ (List.getElem?_eq_some_iff.mp hj).1
  have hitj := List.getElem?_eq_getElem hj'
  refine ⟨iters[j].getD i (.scalar d), ?_, (hall.get j col _ hj hitj).2.2 i hi⟩
  rw [hn, List.getD_eq_getElem?_getD, List.getElem?_map, List.getElem?_range hi]
  simp only [Option.map_some, Option.getD_some, List.getElem?_map, hitj]

theorem countRecords_refines {c : PCol α} (h : c.Clean) (hch : c.chunks ≠ []) :
    NArr.countRecords c = .ok (c.rows.map Row.len) := by
  cases hty : c.ty with
  | nil => exact absurd hty h.fields
  | cons p tys =>
    have hp : c.ty.any (·.1 == p.1) = true := field_of_ty (hty ▸ List.mem_cons_self)
    simp only [NArr.countRecords, fieldNames_ok h.wf hch, hty, List.map_cons, iterFieldLists_eq c h.wf p.1 hp, exc]
    -- the first field has the rows' record counts, like every field
    rw [← listsOf_lens_rows h hp]
    exact List.map_congr_left fun o _ => by cases o <;> rfl

/-- **Assignment of flat values to a field of an existing nest, row by row.**  For a frame whose
    nested column `nest` is stored cleanly (any chunking), a successful
    `setField nest field ty (.array vals) (some idx)` replaces only that column, and
    * when `idx` is not the frame's own index (the flat index of a column whose rows do not all
      hold exactly one record): row `i` gets the `i`-th piece of `vals` cut by the rows' record
      counts — values are stored positionally, record by record;
    * when `idx` equals the frame's index (one value per frame row): row `i` gets its value
      repeated once per record (the two coincide when every row holds exactly one record; when
      they do not, this is finding K5). -/
theorem setField_rows [Inhabited α] {F F' : NFrame α} {nest field ty : String} {vals : List α}
    {idx : List Label} {na : α} {c : PCol α}
    (hn : F.nestedColumns.contains nest = true) (hc : F.nest? nest = .ok c) (hclean : c.Clean)
    (h : F.setField nest field ty (.array vals) (some idx) na = .ok F') :
    ∃ c', F' = F.setCol nest (.nest c') ∧ c'.ty = Spec.tyUpsert c.ty field ty ∧
      c'.rows = if (idx == F.index) = true
        then List.zipWith (fun r v => r.map fun t => Spec.Table.upsert t field (List.replicate (Row.len r) v)) c.rows vals
        else List.zipWith (fun r l => r.map fun t => Spec.Table.upsert t field l) c.rows
              (Spec.splitBy (c.rows.map Row.len) vals) := by
  obtain ⟨c0, c', hc0, hF, h⟩ := setField_inv hn h
  cases hc.symm.trans hc0
  refine ⟨c', hF, ?_⟩
  rcases h with ⟨xs, idx', hv, hvi, hidx, h⟩ | ⟨hno, h⟩
  · cases hv
    cases hvi
    have ⟨hr, hty⟩ := fillFieldLists_rows hclean h
    exact ⟨hty, by rw [if_pos hidx]; exact hr⟩
  · have ⟨hr, hty, _⟩ := setFlatField_rows hclean h
    exact ⟨hty, by rw [hno vals idx rfl rfl]; exact hr⟩

theorem evalAssign_rows (F F' : NFrame Cell) (nest field : String) (e : Expr) (c : PCol Cell)
    (hn : F.nestedColumns.contains nest = true) (hc : F.nest? nest = .ok c) (hclean : c.Clean)
    (idx : List Label) (ty : String) (vals : List Cell) (hev : F.evalExpr e = .ok (idx, ty, vals))
    (h : F.evalAssign nest field e = .ok F') :
    ∃ c', F' = F.setCol nest (.nest c') ∧ c'.ty = Spec.tyUpsert c.ty field ty ∧
      c'.rows = if (idx == F.index) = true
        then List.zipWith (fun r v => r.map fun t => Spec.Table.upsert t field (List.replicate (Row.len r) v)) c.rows vals
        else List.zipWith (fun r l => r.map fun t => Spec.Table.upsert t field l) c.rows
              (Spec.splitBy (c.rows.map Row.len) vals) := by
  obtain ⟨_, _, _, hev', h⟩ := evalAssign_eq_ok.mp h
  cases hev.symm.trans hev'
  exact setField_rows hn hc hclean h

end NP
