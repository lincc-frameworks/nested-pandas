/-
  NPModel.Refine.LabelOrder — the order on index labels used by the model (`Label.le`: integers by
  value, strings by code points, integers before strings) is transitive and total, so the
  stable-sort and sortedness lemmas apply to `pack_flat`.
-/
import NPModel.Basic
namespace NP

theorem Label.le_total (a b : Label) : (a.le b || b.le a) = true := by
  cases a <;> cases b <;> simp [Label.le]
  · rename_i x y; exact Int.le_total x y
  · rename_i x y; exact String.le_total x y

theorem Label.le_trans (a b c : Label) (h1 : a.le b = true) (h2 : b.le c = true) : a.le c = true := by
  cases a <;> cases b <;> cases c <;> simp [Label.le] at *
  · exact Int.le_trans h1 h2
  · exact String.le_trans h1 h2

theorem Label.le_antisymm (a b : Label) (h1 : a.le b = true) (h2 : b.le a = true) : a = b := by
  cases a <;> cases b <;> simp [Label.le] at *
  · exact Int.le_antisymm h1 h2
  · exact String.le_antisymm h1 h2

end NP
