/-
  The storage invariant of a whole frame (`NFrame.Sound`) is preserved by the operations that rebuild a nested
  column (query, dropna, sort_values on a nested layer), by the joins, and by chains of them (`chain_invariant`).
  `NFrame.Sound`, the first two chain types (`NestOp`, `FrameOp`) and their runners are defined here.
-/
import NPModel.Refine.CleanTake
import NPModel.Refine.JoinRows
import NPModel.Refine.FrameLemmas
namespace NP
variable {α : Type}

/-- a frame whose storage is sound: every base column has one cell per row, every nested column
    is clean storage (well formed, validated, nothing hidden under missing rows, at least one
    field, at least one chunk) with one row per frame row -/
structure NFrame.Sound (F : NFrame α) : Prop where
  base : ∀ n t v, (n, ColData.base t v) ∈ F.cols → v.length = F.index.length
  nest : ∀ n c, (n, ColData.nest c) ∈ F.cols → c.Clean ∧ c.chunks ≠ [] ∧ c.len = F.index.length

theorem NFrame.Sound.consistent {F : NFrame α} (h : F.Sound) : F.Consistent :=
  ⟨h.base, fun n c hm =>
    have ⟨hc, _, hl⟩ := h.nest n c hm
    ⟨hc.wf, hc.aligned, hl⟩⟩

/-- a column that a sound frame of `n` rows may hold -/
def ColData.SoundAt (n : Nat) : ColData α → Prop
  | .base _ v => v.length = n
  | .nest c => c.Clean ∧ c.chunks ≠ [] ∧ c.len = n

theorem NFrame.sound_iff {F : NFrame α} : F.Sound ↔ ∀ p ∈ F.cols, p.2.SoundAt F.index.length :=
  ⟨fun h p hp => match p, hp with
    | (n, .base t v), hp => h.base n t v hp
    | (n, .nest c), hp => h.nest n c hp,
   fun h => ⟨fun _ _ _ hm => h _ hm, fun _ _ hm => h _ hm⟩⟩

theorem setCol_sound (F : NFrame α) (h : F.Sound) (n : String) (c : PCol α) (hc : c.Clean) (hch : c.chunks ≠ [])
    (hl : c.len = F.index.length) : (F.setCol n (.nest c)).Sound :=
  NFrame.sound_iff.mpr fun p hp => by
    rw [NFrame.setCol_index]
    rcases mem_setCol hp with h1 | rfl
    · exact NFrame.sound_iff.mp h p h1
    · exact ⟨hc, hch, hl⟩

/-- what `_set_filtered_flat_df` returns, when it returns: the frame with that one column replaced by clean
    storage with one row per frame row — the packed column itself, or the packed column aligned by `take` -/
theorem setFilteredFlatDf_replaces {F F' : NFrame α} (h : F.Sound) {nest : String} {flat : FlatDF α}
    (hok : F.setFilteredFlatDf nest flat = .ok F') : F'.Sound ∧ ∃ col, F' = F.setCol nest (.nest col) := by
  obtain ⟨packed, hp, hok⟩ := Except.bind_eq_ok.mp hok
  obtain ⟨col, hcol, hok⟩ := Except.bind_eq_ok.mp hok
  cases hok
  refine ⟨?_, col, rfl⟩
  have ⟨hcl, hch, hlen⟩ := packSortedDf_clean flat packed hp
  split at hcol
  · rename_i hall
    cases hcol
    apply setCol_sound F h nest packed.col hcl hch
    rw [← hlen, eq_of_beq hall, List.length_map, List.length_range]
  · have ⟨hc', hl', _, hch'⟩ := take_none_clean packed.col hcl _ col hcol
    apply setCol_sound F h nest col hc' hch'
    rw [hl', ordinalIndexer, List.length_map, List.length_range]

/-- **`_set_filtered_flat_df` keeps a frame sound**, whatever flat table it is handed. -/
theorem setFilteredFlatDf_sound (F : NFrame α) (h : F.Sound) (nest : String) (flat : FlatDF α) (F' : NFrame α)
    (hok : F.setFilteredFlatDf nest flat = .ok F') : F'.Sound :=
  (setFilteredFlatDf_replaces h hok).1

/-- the operations of the property list that rebuild ONE nested column from its flat view -/
inductive NestOp where
  | query (e : Expr) (nest : String)
  | dropna (nest : String) (how : How) (thresh : Option Nat) (subset : Option (List String))
  | sort (nest : String) (keys : List (String × Bool)) (naFirst : Bool)

def NestOp.target : NestOp → String
  | .query _ nest => nest
  | .dropna nest _ _ _ => nest
  | .sort nest _ _ => nest

/-- one step of the implementation model (with the model's own cell order and null test) -/
def NestOp.run (F : NFrame Cell) : NestOp → R (NFrame Cell)
  | .query e nest => if e.layers = [some nest] then F.query e else .error .valueError
  | .dropna nest how thresh subset => F.dropnaNested cellIsNull nest how thresh subset
  | .sort nest keys naFirst => F.sortNested cellLt cellIsNull nest keys naFirst

/-- a chain: every step runs on the result of the previous one; the first failure ends it -/
def runChain (F : NFrame Cell) : List NestOp → R (NFrame Cell)
  | [] => .ok F
  | op :: ops => match op.run F with
    | .ok F' => runChain F' ops
    | .error e => .error e

/-- every rebuilding operation ends in ONE call of `_set_filtered_flat_df` on its target column -/
theorem NestOp.run_rebuilds {F F' : NFrame Cell} {op : NestOp} (hok : op.run F = .ok F') :
    ∃ flat, F.setFilteredFlatDf op.target flat = .ok F' := by
  cases op with
  | query e nest =>
    simp only [NestOp.run, exc] at hok
    obtain ⟨hl, hok⟩ := hok
    obtain ⟨-, _, -, _, -, hok⟩ := (NFrame.query_nest_eq_ok hl).mp hok
    exact ⟨_, hok⟩
  | dropna | sort =>
    obtain ⟨_, -, hok⟩ := Except.bind_eq_ok.mp hok
    obtain ⟨_, -, hok⟩ := Except.bind_eq_ok.mp hok
    exact ⟨_, hok⟩

theorem NestOp.run_sound {F F' : NFrame Cell} (h : F.Sound) {op : NestOp} (hok : op.run F = .ok F') :
    F'.Sound ∧ ∃ col, F' = F.setCol op.target (.nest col) :=
  have ⟨_, hset⟩ := NestOp.run_rebuilds hok
  setFilteredFlatDf_replaces h hset

/-- a chain that runs step after step and stops at the first failure keeps what every successful step keeps -/
theorem chain_invariant {σ ο : Type} {step : σ → ο → R σ} {chain : σ → List ο → R σ}
    (hnil : ∀ F, chain F [] = .ok F) (hcons : ∀ F op ops, chain F (op :: ops) = step F op >>= (chain · ops))
    {P : σ → Prop} (hstep : ∀ F op F', P F → step F op = .ok F' → P F') :
    ∀ ops F, P F → ∀ F', chain F ops = .ok F' → P F'
  | [], F, h, F', hok => by
    rw [hnil] at hok
    exact Except.ok.inj hok ▸ h
  | op :: ops, F, h, F', hok =>
    have ⟨F₁, hr, hrest⟩ := Except.bind_eq_ok.mp (hcons F op ops ▸ hok)
    chain_invariant hnil hcons hstep ops F₁ (hstep F op F₁ h hr) F' hrest

theorem sound_of_colwise {F : NFrame α} (h : F.Sound) {g : String × ColData α → R (String × ColData α)}
    {cols' : List (String × ColData α)} (hcols : F.cols.mapM g = .ok cols') (index' : List Label)
    (hg : ∀ p p', p.2.SoundAt F.index.length → g p = .ok p' → p'.2.SoundAt index'.length) :
    NFrame.Sound { index := index', cols := cols' } :=
  NFrame.sound_iff.mpr fun p' hp' =>
    have ⟨p, hp, hgp⟩ := (mapM_eq_ok.mp hcols).mem_right p' hp'
    hg p p' (NFrame.sound_iff.mp h p hp) hgp

/-- moving / repeating / dropping rows of a sound frame (`take` on every column, missing where there
    is no source row) gives a sound frame -/
theorem takeRows_sound (F : NFrame α) (h : F.Sound) (idx : List (Option Nat)) (dflt : α) (newIndex : List Label)
    (hl : idx.length = newIndex.length) (F₁ : NFrame α) (hok : F.takeRows idx dflt newIndex = .ok F₁) : F₁.Sound := by
  obtain ⟨cols', hcols, rfl⟩ := NFrame.takeRows_eq_ok.mp hok
  refine sound_of_colwise h hcols newIndex fun p p' hp hg => ?_
  rcases p with ⟨n, ⟨t, v⟩ | c⟩
  · cases hg
    exact (List.length_map _).trans hl
  · obtain ⟨c', htake, hg⟩ := Except.bind_eq_ok.mp hg
    cases hg
    have ⟨hcl, hlen, _, hch⟩ := take_none_clean c hp.1 _ c' htake
    exact ⟨hcl, hch, by simp [hlen, optIndexer, hl]⟩

/-- **`add_nested` keeps frames sound, whatever the join**: every old column is re-gathered, the new
    column is clean storage with one row per result row. -/
theorem addNested_sound [Inhabited α] (F : NFrame α) (h : F.Sound) (flat : FlatDF α) (name : String) (how : JoinHow)
    (na : α) (F' : NFrame α) (hok : F.addNested flat name how na = .ok F') : F'.Sound := by
  obtain ⟨packed, hpk, hok⟩ := Except.bind_eq_ok.mp hok
  obtain ⟨F₁, htr, hok⟩ := Except.bind_eq_ok.mp hok
  obtain ⟨col, htake, hok⟩ := Except.bind_eq_ok.mp hok
  cases hok
  have hF₁ : F₁.Sound := takeRows_sound F h _ na _ (by simp) F₁ htr
  have ⟨hcl, hch, _⟩ := packSortedDf_clean _ packed hpk
  have ⟨hc', hlen, _, hch'⟩ := take_none_clean packed.col hcl _ col htake
  apply setCol_sound F₁ hF₁ name col hc' hch'
  -- the index of the gathered frame is the plan's labels
  obtain ⟨_, _, rfl⟩ := NFrame.takeRows_eq_ok.mp htr
  simp [hlen]

/-- `NestOp` and the joins (`add_nested`); the chains grow `NestOp ⊂ FrameOp ⊂ AnyOp ⊂ AllOp ⊂ FullOp` -/
inductive FrameOp where
  | rebuild (op : NestOp)
  | join (flat : FlatDF Cell) (name : String) (how : JoinHow)

def FrameOp.run (F : NFrame Cell) : FrameOp → R (NFrame Cell)
  | .rebuild op => op.run F
  | .join flat name how => F.addNested flat name how none

def runFrameChain (F : NFrame Cell) : List FrameOp → R (NFrame Cell)
  | [] => .ok F
  | op :: ops => match op.run F with
    | .ok F' => runFrameChain F' ops
    | .error e => .error e

theorem FrameOp.run_sound {F F' : NFrame Cell} (h : F.Sound) : ∀ {op : FrameOp}, op.run F = .ok F' → F'.Sound
  | .rebuild _, hr => (NestOp.run_sound h hr).1
  | .join flat name how, hr => addNested_sound F h flat name how none F' hr

end NP
