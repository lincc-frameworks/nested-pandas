/-
  The column-path parser on well-formed input: `split1` inverts `joinDot` on dot-free parts, `identifyAliases` on
  plain text and on one quoted name, what `aliasLookup` answers, and the fully quoted two-part path.
-/
import NPModel.Impl.Names
import NPModel.Refine.DtypeParse
namespace NP

def noChar (c : Char) (s : Str) : Bool := s.all (· != c)

theorem noChar_cons {sep c : Char} {s : Str} : noChar sep (c :: s) = true ↔ c ≠ sep ∧ noChar sep s = true := by
  simp [noChar]

theorem split1_last {sep : Char} {p : Str} (cur : Str) (hp : noChar sep p = true) :
    split1 sep p cur = [cur.reverse ++ p] := by
  induction p generalizing cur with
  | nil => simp [split1]
  | cons c p ih =>
    obtain ⟨hc, hp'⟩ := noChar_cons.mp hp
    simpa [split1, hc] using ih (c :: cur) hp'

theorem split1_part_sep {sep : Char} {p : Str} (rest cur : Str) (hp : noChar sep p = true) :
    split1 sep (p ++ sep :: rest) cur = (cur.reverse ++ p) :: split1 sep rest [] := by
  induction p generalizing cur with
  | nil => simp [split1]
  | cons c p ih =>
    obtain ⟨hc, hp'⟩ := noChar_cons.mp hp
    simpa [split1, hc] using ih (c :: cur) hp'

theorem joinDot_eq_intercalate : ∀ parts : List Str, joinDot parts = intercalateStr ['.'] parts
  | [] | [_] => rfl
  | x :: y :: rest => by rw [joinDot, intercalateStr, joinDot_eq_intercalate (y :: rest)]

/-- `"a.b".split(".") = ["a", "b"]` for parts without a dot — any number of parts -/
theorem split1_joinDot : ∀ (parts : List Str), parts ≠ [] → (∀ p ∈ parts, noChar '.' p = true) →
    split1 '.' (joinDot parts) [] = parts := by
  intro parts
  rw [joinDot_eq_intercalate]
  exact split_intercalate (split := (split1 '.' · [])) (free := (noChar '.' · = true))
    (fun p rest hp => by simpa using split1_part_sep rest [] hp)
    (fun p hp => by simpa using split1_last [] hp) parts

theorem identifyAliases_cons_plain (clean : Str → Str) (c : Char) (cs : Str) (hc : c ≠ '`') :
    identifyAliases clean (c :: cs) = (c :: (identifyAliases clean cs).1, (identifyAliases clean cs).2) := by
  rw [identifyAliases]
  simp only [hc, if_false]

theorem identifyAliases_plain (clean : Str → Str) {s : Str} (h : noChar '`' s = true) :
    identifyAliases clean s = (s, []) := by
  induction s with
  | nil => simp [identifyAliases]
  | cons c cs ih =>
    obtain ⟨hc, h'⟩ := noChar_cons.mp h
    rw [identifyAliases_cons_plain clean c cs hc, ih h']

theorem aliasLookup_nil (x : Str) : aliasLookup [] x = x := rfl

theorem takeQuoted_name (a rest acc : Str) (ha : noChar '`' a = true) (hne : acc.reverse ++ a ≠ []) :
    takeQuoted (a ++ '`' :: rest) acc = some (acc.reverse ++ a, rest) := by
  induction a generalizing acc with
  | nil => simpa [takeQuoted] using hne
  | cons c a ih =>
    obtain ⟨hc, ha'⟩ := noChar_cons.mp ha
    simpa [takeQuoted, hc] using ih (c :: acc) ha' (by simp)

theorem identifyAliases_quoted (clean : Str → Str) (a rest : Str) (ha : noChar '`' a = true) (hne : a ≠ []) :
    identifyAliases clean ('`' :: (a ++ '`' :: rest))
      = (clean a ++ (identifyAliases clean rest).1,
         if clean a = a then (identifyAliases clean rest).2 else (clean a, a) :: (identifyAliases clean rest).2) := by
  rw [identifyAliases]
  simp only [if_true]
  have ht : takeQuoted (a ++ '`' :: rest) [] = some (a, rest) := takeQuoted_name a rest [] ha hne
  split
  · next heq =>
    cases ht.symm.trans heq
    rfl
  · next heq => cases ht.symm.trans heq

theorem aliasLookup_eq {al : List (Str × Str)} {x y : Str} (h : ∀ p ∈ al, p.1 = x → p.2 = y)
    (h0 : (∀ p ∈ al, p.1 ≠ x) → x = y) : aliasLookup al x = y := by
  unfold aliasLookup
  split
  · next p hp => exact h p (List.mem_reverse.mp (List.mem_of_find?_eq_some hp)) (by simpa using List.find?_some hp)
  · next hn => exact h0 fun p hp => by simpa using List.find?_eq_none.mp hn p (List.mem_reverse.mpr hp)

theorem mem_recorded {c a : Str} {al : List (Str × Str)} {p : Str × Str} :
    p ∈ (if c = a then al else (c, a) :: al) ↔ (c ≠ a ∧ p = (c, a)) ∨ p ∈ al := by
  split <;> simp [*]

theorem aliasLookup_clean {clean : Str → Str} {names : List Str} {al : List (Str × Str)}
    (hal : ∀ p, p ∈ al ↔ ∃ n ∈ names, clean n ≠ n ∧ p = (clean n, n)) {n : Str} (hn : n ∈ names)
    (hinj : ∀ m ∈ names, clean m = clean n → m = n) : aliasLookup al (clean n) = n := by
  refine aliasLookup_eq (fun p hp hk => ?_) fun hno =>
    Decidable.byContradiction fun hc => hno _ ((hal _).mpr ⟨n, hn, hc, rfl⟩) rfl
  obtain ⟨m, hm, _, rfl⟩ := (hal p).mp hp
  exact hinj m hm hk

/-- **A fully quoted path parses to the quoted names**, whatever characters they contain (spaces,
    punctuation, dots, keywords), provided `clean` produces dot-free text and does not identify
    the two names. -/
theorem parse_quoted_pair (clean : Str → Str) (a b : Str)
    (ha : noChar '`' a = true) (hb : noChar '`' b = true) (hane : a ≠ []) (hbne : b ≠ [])
    (hca : noChar '.' (clean a) = true) (hcb : noChar '.' (clean b) = true)
    (hinj : clean a = clean b → a = b) :
    parseComponents clean none ('`' :: (a ++ '`' :: '.' :: '`' :: (b ++ ['`']))) = [a, b] := by
  unfold parseComponents
  simp only
  rw [identifyAliases_quoted clean a _ ha hane, identifyAliases_cons_plain clean '.' _ (by decide),
      identifyAliases_quoted clean b [] hb hbne]
  simp only [identifyAliases, List.append_nil]
  rw [split1_part_sep _ [] hca, split1_last [] hcb]
  suffices h : ∀ al : List (Str × Str), (∀ p, p ∈ al ↔ ∃ n ∈ [a, b], clean n ≠ n ∧ p = (clean n, n)) →
      [aliasLookup al (clean a), aliasLookup al (clean b)] = [a, b] from
    h _ fun p => by
      simp only [mem_recorded, ne_eq, List.mem_ite_nil_left, List.mem_cons, List.not_mem_nil, or_false, exists_eq_or_imp,
        exists_eq_left]
  intro al hal
  rw [aliasLookup_clean hal (n := a) List.mem_cons_self
      (List.forall_mem_cons.mpr ⟨fun _ => rfl, List.forall_mem_singleton.mpr fun h => (hinj h.symm).symm⟩),
    aliasLookup_clean hal (n := b) (List.mem_cons_of_mem _ List.mem_cons_self)
      (List.forall_mem_cons.mpr ⟨hinj, List.forall_mem_singleton.mpr fun _ => rfl⟩)]

end NP
