/-
  Frame-level bookkeeping: replacing one column leaves the index, the other columns and the column order alone;
  what `frame['nest.field'] = v` does to an existing nested column; and what a successful field assignment, eval
  assignment or query amounts to (`setField_inv`, `evalAssign_eq_ok`, `NFrame.query_nest_eq_ok`, `NFrame.query_base_eq_ok`).
-/
import NPModel.Impl.Frame
import NPModel.Refine.Fields
namespace NP
variable {α : Type}

theorem NFrame.setCol_index (F : NFrame α) (n : String) (d : ColData α) : (F.setCol n d).index = F.index := by
  rw [NFrame.setCol, apply_ite NFrame.index]
  exact ite_self _

theorem NFrame.setCol_cols (F : NFrame α) (n : String) (d : ColData α) :
    (F.setCol n d).cols = upsert (·.1 == n) F.cols (n, d) := by
  rw [NFrame.setCol, apply_ite NFrame.cols]
  rfl

theorem mem_setCol {F : NFrame α} {n : String} {d : ColData α} {p : String × ColData α}
    (hp : p ∈ (F.setCol n d).cols) : p ∈ F.cols ∨ p = (n, d) :=
  mem_upsert (F.setCol_cols n d ▸ hp)

theorem NFrame.setCol_other {F : NFrame α} {n m : String} {d : ColData α} (h : (n == m) = false) :
    (F.setCol n d).col? m = F.col? m := by
  unfold NFrame.col?
  rw [NFrame.setCol_cols]
  exact congrArg _ (find?_upsert_other F.cols h fun _ ha => eq_of_beq ha ▸ h)

theorem NFrame.setCol_names {F : NFrame α} {n : String} {d : ColData α} (h : F.cols.any (·.1 == n) = true) :
    (F.setCol n d).cols.map (·.1) = F.cols.map (·.1) := by
  rw [NFrame.setCol, if_pos h, List.map_map]
  refine List.map_congr_left fun p _ => ?_
  by_cases hp : (p.1 == n) = true
  · exact (congrArg Prod.fst (if_pos hp)).trans (eq_of_beq hp).symm
  · exact congrArg Prod.fst (if_neg hp)

theorem withFlatField_inv {s s' : NSeries α} {f ty : String} {v : FlatVal α} (h : s.withFlatField f ty v = .ok s') :
    s'.index = s.index ∧ NArr.setFlatField s.col f ty v false = .ok s'.col := by
  simp only [NSeries.withFlatField, NArr.copy, exc] at h
  obtain ⟨c', hc', rfl⟩ := h
  exact ⟨rfl, hc'⟩

theorem withFilledField_inv {s s' : NSeries α} {f ty : String} {v : List α} (h : s.withFilledField f ty v = .ok s') :
    s'.index = s.index ∧ NArr.fillFieldLists s.col f ty v false = .ok s'.col := by
  simp only [NSeries.withFilledField, NArr.copy, exc] at h
  obtain ⟨c', hc', rfl⟩ := h
  exact ⟨rfl, hc'⟩

/-- `frame['nest.field'] = v` on an existing nest replaces that column by one of the two column edits of it:
    one value per row when the value carries the frame's own index, flat values otherwise -/
theorem setField_inv [Inhabited α] {F F' : NFrame α} {nest field ty : String} {v : FlatVal α}
    {vi : Option (List Label)} {na : α}
    (hn : F.nestedColumns.contains nest = true) (h : F.setField nest field ty v vi na = .ok F') :
    ∃ c c', F.nest? nest = .ok c ∧ F' = F.setCol nest (.nest c') ∧
      ((∃ xs idx, v = .array xs ∧ vi = some idx ∧ (idx == F.index) = true ∧
          NArr.fillFieldLists c field ty xs false = .ok c') ∨
       ((∀ xs idx, v = .array xs → vi = some idx → (idx == F.index) = false) ∧
          NArr.setFlatField c field ty v false = .ok c')) := by
  unfold NFrame.setField at h
  rw [if_pos hn] at h
  obtain ⟨c, hc, h⟩ := Except.bind_eq_ok.mp h
  obtain ⟨s', hs', h⟩ := Except.bind_eq_ok.mp h
  cases h
  refine ⟨c, s'.col, hc, rfl, ?_⟩
  split at hs'
  · split at hs'
    · exact .inl ⟨_, _, rfl, rfl, ‹_›, (withFilledField_inv hs').2⟩
    · exact .inr ⟨fun _ _ h1 h2 => by cases h1; cases h2; exact Bool.eq_false_iff.mpr ‹_›, (withFlatField_inv hs').2⟩
  · -- only an array that carries an index can take the base-aligned branch
    rename_i hno
    exact .inr ⟨fun xs idx h1 h2 => (hno xs idx h1 h2).elim, (withFlatField_inv hs').2⟩

/-- `NestedFrame['nest.field'] = value` on an existing nest: the frame keeps its index, every
    other column and the column order; inside the nest the chunk-wise frame condition holds. -/
theorem setField_existing_nest [Inhabited α] {F F' : NFrame α} {nest field ty : String} {v : FlatVal α}
    {vi : Option (List Label)} {na : α}
    (hn : F.nestedColumns.contains nest = true) (h : F.setField nest field ty v vi na = .ok F') :
    ∃ c c', F.nest? nest = .ok c ∧ F' = F.setCol nest (.nest c') ∧ All2 (FieldSet field ty) c.chunks c'.chunks := by
  obtain ⟨c, c', hc, hF, ⟨_, _, _, _, _, h⟩ | ⟨_, h⟩⟩ := setField_inv hn h
  · exact ⟨c, c', hc, hF, fillFieldLists_chunks h⟩
  · exact ⟨c, c', hc, hF, setFlatField_chunks h⟩

theorem evalAssign_eq_ok {F F' : NFrame Cell} {nest field : String} {e : Expr} :
    F.evalAssign nest field e = .ok F' ↔ ∃ idx ty vals, F.evalExpr e = .ok (idx, ty, vals) ∧
      F.setField nest field ty (.array vals) (some idx) none = .ok F' := by
  simp only [NFrame.evalAssign, exc, Prod.exists]

/-- `query` with a condition over ONE nested layer: flat view, the condition on every record, re-packing -/
theorem NFrame.query_nest_eq_ok {F F' : NFrame Cell} {e : Expr} {nest : String} (hl : e.layers = [some nest]) :
    F.query e = .ok F' ↔ F.nestedColumns.contains nest = true ∧
      ∃ flat, F.ordinalFlat nest = .ok flat ∧ ∃ vals, evalAll flat.len (recordLookup flat nest) e = .ok vals ∧
        F.setFilteredFlatDf nest (flat.filterRows (vals.map fun c => c == some (.bool true))) = .ok F' := by
  simp only [NFrame.query, hl, exc, List.length_cons, List.length_nil, Nat.lt_irrefl, gt_iff_lt, Nat.zero_add,
    if_false, Bool.not_eq_true, Bool.not_eq_false]

/-- `query` with a condition over the base layer: the condition on every row, then the row filter -/
theorem NFrame.query_base_eq_ok {F F' : NFrame Cell} {e : Expr} (hl : e.layers = [] ∨ e.layers = [none]) :
    F.query e = .ok F' ↔ ∃ vals, evalAll F.index.length (baseLookup F) e = .ok vals ∧
      F.filterRows (vals.map fun c => c == some (.bool true)) = .ok F' := by
  rcases hl with hl | hl <;>
    simp only [NFrame.query, hl, exc, List.length_cons, List.length_nil, Nat.lt_irrefl, gt_iff_lt, Nat.zero_add,
      if_false, Nat.not_lt_zero]
end NP
