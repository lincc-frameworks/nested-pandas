/-
  The parser of nested dtype names inverts the name function (`parse_name`): Python's `str.split` on a
  two-character separator cuts a joined text back into its separator-free parts.
-/
import NPModel.Impl.Dtype
import NPModel.Refine.ExceptLemmas
namespace NP

/-- no adjacent pair `a b` inside `s` -/
def noPair (a b : Char) : Str → Bool
  | c :: d :: rest => !(c == a && d == b) && noPair a b (d :: rest)
  | _ => true

@[simp] theorem noPair_nil (a b : Char) : noPair a b [] = true := rfl
@[simp] theorem noPair_single (a b c : Char) : noPair a b [c] = true := rfl
@[simp] theorem noPair_cons₂ (a b c d : Char) (rest : Str) :
    noPair a b (c :: d :: rest) = (!(c == a && d == b) && noPair a b (d :: rest)) := rfl

theorem noPair_cons₂_iff {a b c d : Char} {rest : Str} :
    noPair a b (c :: d :: rest) = true ↔ ¬ (c = a ∧ d = b) ∧ noPair a b (d :: rest) = true := by
  rw [noPair, Bool.and_eq_true, Bool.not_eq_true', ← Bool.not_eq_true, Bool.and_eq_true, beq_iff_eq, beq_iff_eq]

/-- `cur` is the accumulator of `split2` / `splitOnce2`: the part read so far, reversed (`[]` at the call) -/
theorem splitOnce2_part_sep {a b : Char} (hab : a ≠ b) (p rest cur : Str) (hp : noPair a b p = true) :
    splitOnce2 a b (p ++ a :: b :: rest) cur = some (cur.reverse ++ p, rest) := by
  induction p generalizing cur with
  | nil => simp [splitOnce2]
  | cons c p ih =>
    cases p with
    | nil => simp [splitOnce2, hab]
    | cons d p' =>
      obtain ⟨hcd, hp'⟩ := noPair_cons₂_iff.mp hp
      simpa [splitOnce2, hcd] using ih (c :: cur) hp'

theorem split2_part_sep {a b : Char} (hab : a ≠ b) (p rest cur : Str) (hp : noPair a b p = true) :
    split2 a b (p ++ a :: b :: rest) cur = (cur.reverse ++ p) :: split2 a b rest [] := by
  induction p generalizing cur with
  | nil => simp [split2]
  | cons c p ih =>
    cases p with
    | nil => simp [split2, hab]
    | cons d p' =>
      obtain ⟨hcd, hp'⟩ := noPair_cons₂_iff.mp hp
      simpa [split2, hcd] using ih (c :: cur) hp'

theorem split2_last {a b : Char} (p cur : Str) (hp : noPair a b p = true) :
    split2 a b p cur = [cur.reverse ++ p] := by
  induction p generalizing cur with
  | nil => simp [split2]
  | cons c p ih =>
    cases p with
    | nil => simp [split2]
    | cons d p' =>
      obtain ⟨hcd, hp'⟩ := noPair_cons₂_iff.mp hp
      simpa [split2, hcd] using ih (c :: cur) hp'

/-- **`split` inverts `join`**, for any splitter that cuts after a separator-free part and returns a
    separator-free text whole (`split1` on `.`, `split2` on two characters) -/
theorem split_intercalate {split : Str → List Str} {sep : Str} {free : Str → Prop}
    (hcut : ∀ p rest, free p → split (p ++ sep ++ rest) = p :: split rest)
    (hlast : ∀ p, free p → split p = [p]) :
    ∀ parts : List Str, parts ≠ [] → (∀ p ∈ parts, free p) → split (intercalateStr sep parts) = parts
  | [p], _, hall => hlast p (hall p List.mem_cons_self)
  | p :: q :: rest, _, hall => by
    rw [intercalateStr, hcut p _ (hall p List.mem_cons_self),
      split_intercalate hcut hlast (q :: rest) (List.cons_ne_nil _ _) fun x hx => hall x (List.mem_cons_of_mem _ hx)]

theorem split2_intercalate (a b : Char) (hab : a ≠ b) :
    ∀ (parts : List Str), parts ≠ [] → (∀ p ∈ parts, noPair a b p = true) →
      split2 a b (intercalateStr [a, b] parts) [] = parts :=
  split_intercalate (split := (split2 a b · [])) (free := (noPair a b · = true))
    (fun p rest hp => by simpa using split2_part_sep hab p rest [] hp)
    (fun p hp => by simpa using split2_last p [] hp)

theorem stripPrefix?_append (p s : Str) : stripPrefix? p (p ++ s) = some s := by
  induction p with
  | nil => rfl
  | cons c p ih => simp [stripPrefix?, ih]

theorem stripSuffix?_append (suf s : Str) : stripSuffix? suf (s ++ suf) = some s := by
  unfold stripSuffix?
  rw [List.reverse_append, stripPrefix?_append]
  simp

theorem noPair_append {a b : Char} {x y : Str} (hx : noPair a b x = true) (hy : noPair a b y = true)
    (hj : x.getLast? ≠ some a ∨ y.head? ≠ some b) : noPair a b (x ++ y) = true := by
  induction x with
  | nil => exact hy
  | cons c x ih =>
    cases x with
    | nil =>
      cases y with
      | nil => rfl
      | cons d y' =>
        refine noPair_cons₂_iff.mpr ⟨fun h => ?_, hy⟩
        simp [h.1, h.2] at hj
    | cons d x' =>
      obtain ⟨hcd, hx'⟩ := noPair_cons₂_iff.mp hx
      exact noPair_cons₂_iff.mpr ⟨hcd, ih hx' (by simpa [List.getLast?_cons_cons] using hj)⟩

variable {τ : Type}

/-- hypotheses of the round trip: names and rendered types free of the separators, aliases sound,
    field names distinct, at least one field -/
structure NameOK (render : τ → Str) (alias? : Str → Option τ) (d : List (Str × τ)) : Prop where
  nonempty : d ≠ []
  names_comma : ∀ f ∈ d, noPair ',' ' ' f.1 = true
  names_colon : ∀ f ∈ d, noPair ':' ' ' f.1 = true
  render_comma : ∀ f ∈ d, noPair ',' ' ' (render f.2) = true
  alias_sound : ∀ f ∈ d, alias? (render f.2) = some f.2
  nodup : (d.map (·.1)).Pairwise (· ≠ ·)

theorem fieldString_noComma {render : τ → Str} {f : Str × τ} (hn : noPair ',' ' ' f.1 = true)
    (hr : noPair ',' ' ' (render f.2) = true) : noPair ',' ' ' (fieldString render f) = true := by
  rw [fieldString, List.append_assoc, List.append_assoc]
  refine noPair_append hn (noPair_append (by decide) ?_ (.inl (by decide))) (.inr (by simp))
  exact noPair_append hr (by decide) (.inr (by simp))

theorem parseField_fieldString_eq {render : τ → Str} {alias? : Str → Option τ} {f : Str × τ}
    (hn : noPair ':' ' ' f.1 = true) :
    parseField alias? (fieldString render f) =
      match alias? (render f.2) with
      | some t => .ok (f.1, t)
      | none => .error .typeError := by
  have e : fieldString render f = f.1 ++ ':' :: ' ' :: (['['] ++ (render f.2 ++ [']'])) := by simp [fieldString]
  rw [parseField, e, splitOnce2_part_sep (by decide) f.1 _ [] hn]
  simp only [List.reverse_nil, List.nil_append, stripPrefix?_append, stripSuffix?_append]
  rfl

theorem dictSet_fresh {d : List (Str × τ)} {n : Str} {t : τ} (h : ∀ p ∈ d, p.1 ≠ n) :
    dictSet d n t = d ++ [(n, t)] := by
  have hn : ¬ d.any (·.1 == n) = true := fun ha =>
    have ⟨p, hp, e⟩ := List.any_eq_true.mp ha
    h p hp (beq_iff_eq.mp e)
  rw [dictSet, if_neg hn]

theorem foldlM_parse (render : τ → Str) (alias? : Str → Option τ) :
    ∀ (fs acc : List (Str × τ)),
      (∀ f ∈ fs, parseField alias? (fieldString render f) = .ok f) →
      ((acc ++ fs).map (·.1)).Pairwise (· ≠ ·) →
      (fs.map (fieldString render)).foldlM (fun acc s => do
          let (n, t) ← parseField alias? s
          pure (dictSet acc n t)) acc = .ok (acc ++ fs) := by
  intro fs
  induction fs with
  | nil => intro acc _ _; rw [List.append_nil]; rfl
  | cons f fs ih =>
    intro acc hp hd
    obtain ⟨n, t⟩ := f
    have hfresh : ∀ p ∈ acc, p.1 ≠ n := fun p hpm => by
      rw [List.map_append, List.pairwise_append] at hd
      exact hd.2.2 p.1 (List.mem_map_of_mem hpm) n List.mem_cons_self
    rw [List.append_cons] at hd ⊢
    rw [List.map_cons, List.foldlM_cons, hp _ List.mem_cons_self, Except.ok_bind, pure_bind, dictSet_fresh hfresh]
    exact ih _ (fun g hg => hp g (List.mem_cons_of_mem _ hg)) hd

theorem parse_name (render : τ → Str) (alias? : Str → Option τ) (d : List (Str × τ)) (h : NameOK render alias? d) :
    constructFromString alias? (dtypeName render d) = .ok d := by
  have hsplit := split2_intercalate ',' ' ' (by decide) (d.map (fieldString render)) (by simpa using h.nonempty)
    (List.forall_mem_map.mpr fun f hf => fieldString_noComma (h.names_comma f hf) (h.render_comma f hf))
  rw [constructFromString, dtypeName, List.append_assoc, stripPrefix?_append]
  simp only [stripSuffix?_append, hsplit]
  exact foldlM_parse render alias? d []
    (fun f hf => by rw [parseField_fieldString_eq (h.names_colon f hf), h.alias_sound f hf]) h.nodup

end NP
