/-
  The summary and flat views of a chunk agree with its element view (C03) on validated storage
  (well-formed, null ⇒ empty extent, aligned fields) without hidden child lists under missing rows;
  the two transpositions between struct-of-lists and list-of-structs compose to the identity on
  rows, a missing row coming back as a row of empty lists (C19).
  Defines `PStruct.noHidden` and `emptyTable`.
-/
import NPModel.Refine.Validate
namespace NP
variable {α : Type}

/-- no hidden child lists: under a missing row every field's list reads as empty -/
def PStruct.noHidden (s : PStruct α) : Prop :=
  ∀ i, i < s.len → s.valid.getD i false = false → ∀ k ∈ s.kids, len0 (k.list.rows.getD i none) = 0

instance (s : PStruct α) : Decidable s.noHidden := by unfold PStruct.noHidden; infer_instance

theorem PList.windowVals_length {l : PList α} (hw : l.WF = true) :
    l.windowVals.length = sumNat (diffs l.offs) := by
  obtain ⟨offs, valid, vals⟩ := l
  have ⟨_, hm, hl⟩ := PList.WF_iff.mp hw
  obtain rfl | ⟨b, ls, rfl⟩ := monotone_cases hm
  · rfl
  · simp only [offsetsFrom_last] at hl
    simp only [PList.windowVals, offsetsFrom_last, offsetsFrom_head, Nat.add_sub_cancel_left, diffs_offsetsFrom,
      List.length_take, List.length_drop]
    exact Nat.min_eq_left (by omega)

/-- aligned fields have windows of one length, which is where the re-based offsets of any of them end -/
theorem PStruct.windowVals_reach {s : PStruct α} (hw : s.WF = true) (hne : s.nullEmpty = true) (ha : s.aligned)
    {k0 k : PField α} (hk0 : k0 ∈ s.kids) (hk : k ∈ s.kids) :
    k.list.windowVals.length = (rebased k0.list.offs).getLast?.getD 0 := by
  have hw0 := (PStruct.WF_iff.mp hw k0 hk0).1
  have hwk := (PStruct.WF_iff.mp hw k hk).1
  rw [rebased_last (PList.WF_iff.mp hw0).2.1 (PList.WF.offs_ne_nil hw0), PList.windowVals_length hwk,
    ← PList.lens_eq_diffs hwk (List.all_eq_true.mp hne k hk), ha k hk k0 hk0,
    PList.lens_eq_diffs hw0 (List.all_eq_true.mp hne k0 hk0)]

/-- **The list-struct transposition of validated storage succeeds** and its offsets are the
    re-based offsets of the first field. -/
theorem transposeSL_ok (s : PStruct α) (hw : s.WF = true) (hne : s.nullEmpty = true) (ha : s.aligned)
    (k0 : PField α) (ks : List (PField α)) (hk : s.kids = k0 :: ks) :
    transposeSL s false = .ok { offs := rebased k0.list.offs
                                valid := List.replicate ((rebased k0.list.offs).length - 1) true
                                fields := s.kids.map fun k' => (k'.name, k'.ty, k'.list.windowVals) } := by
  have hm0 : k0 ∈ s.kids := hk ▸ List.mem_cons_self
  have hreach := fun k => PStruct.windowVals_reach (k := k) hw hne ha hm0
  have c1 : ks.all (fun k' => decide (k'.list.windowVals.length = k0.list.windowVals.length)) = true :=
    List.all_eq_true.mpr fun k' hk' => decide_eq_true <| by
      rw [hreach k' (hk ▸ List.mem_cons_of_mem _ hk'), hreach k0 hm0]
  have c2 : (rebased k0.list.offs).getLast?.getD 0 ≤ k0.list.windowVals.length := Nat.le_of_eq (hreach k0 hm0).symm
  simp only [transposeSL, Bool.false_eq_true, if_false, hk, exc, c1, if_true, c2]

theorem PStruct.storedAt_find? {s : PStruct α} {f : String} {k : PField α} (hk : s.kid? f = some k) (i : Nat) :
    (s.storedAt i).find? (·.1 == f) = some (k.name, (k.list.rows.getD i none).getD []) := by
  rw [PStruct.storedAt, List.find?_map]
  exact congrArg (Option.map _) hk

/-- a field's lists row by row (a null list reading as no elements) are its lists in the element
    view; a missing row contributes an empty list -/
theorem chunk_field_lists {s : PStruct α} (hw : s.WF = true) (hh : s.noHidden)
    {f : String} {k : PField α} (hk : s.kid? f = some k) :
    k.list.rows.map (fun r => r.getD []) = Spec.fieldLists s.rows f := by
  have hmem : k ∈ s.kids := List.mem_of_find?_eq_some hk
  rw [← map_range_getD (fun r => r.getD []) k.list.rows none, PStruct.kid_rows_length hw hmem, Spec.fieldLists, PStruct.rows,
    List.map_map]
  refine List.map_congr_left fun i hi => ?_
  rw [Function.comp, PStruct.rowAt]
  cases hv : s.valid.getD i false with
  | true =>
    show _ = (((s.storedAt i).find? _).map (·.2)).getD []
    rw [PStruct.storedAt_find? hk]
    rfl
  | false =>
    -- no hidden list under a missing row
    exact List.eq_nil_of_length_eq_zero (hh i (List.mem_range.mp hi) hv k hmem)

theorem chunk_row_lens {s : PStruct α} (hw : s.WF = true) (hh : s.noHidden) {k0 : PField α} {ks : List (PField α)}
    (hk : s.kids = k0 :: ks) : k0.list.rows.map len0 = s.rows.map Row.len := by
  have hm0 : k0 ∈ s.kids := hk ▸ List.mem_cons_self
  rw [← map_range_getD len0 k0.list.rows none, PStruct.kid_rows_length hw hm0, PStruct.rows, List.map_map]
  refine List.map_congr_left fun i hi => ?_
  rw [Function.comp, PStruct.rowAt_eq, hk]
  cases hv : s.valid.getD i false with
  | true => rfl
  | false => exact hh i (List.mem_range.mp hi) hv k0 hm0

theorem chunk_lengths_are_row_lens {s : PStruct α} (hw : s.WF = true) (hne : s.nullEmpty = true)
    (hh : s.noHidden) {k0 : PField α} {ks : List (PField α)} (hk : s.kids = k0 :: ks) :
    diffs (rebased k0.list.offs) = s.rows.map Row.len := by
  have hm0 : k0 ∈ s.kids := hk ▸ List.mem_cons_self
  have hw0 := (PStruct.WF_iff.mp hw k0 hm0).1
  rw [diffs_rebased (PList.WF_iff.mp hw0).2.1, ← PList.lens_eq_diffs hw0 (List.all_eq_true.mp hne k0 hm0)]
  exact chunk_row_lens hw hh hk

theorem chunk_flat_is_concat_of_rows {s : PStruct α} (hw : s.WF = true) (hh : s.noHidden)
    {f : String} {k : PField α} (hk : s.kid? f = some k) :
    k.list.flatten = Spec.flatField s.rows f :=
  congrArg List.flatten (chunk_field_lists hw hh hk)

/-- the table of empty lists a missing row comes back as -/
def emptyTable (s : PStruct α) : Table α := s.kids.map fun k => (k.name, [])

/-- the chunk the list-struct orientation reads back as -/
def reimported (s : PStruct α) (k0 : PField α) : PStruct α :=
  { valid := List.replicate ((rebased k0.list.offs).length - 1) true
    kids := s.kids.map fun k => { name := k.name, ty := k.ty
                                  list := { offs := rebased k0.list.offs
                                            valid := List.replicate ((rebased k0.list.offs).length - 1) true
                                            vals := k.list.windowVals } } }

/-- **Export as list-of-structs, import again**: both transpositions succeed on validated
    storage and the re-imported chunk is `reimported s k0`. -/
theorem transpose_twice_ok (s : PStruct α) (hw : s.WF = true) (hne : s.nullEmpty = true) (hv : s.validate = .ok ())
    (k0 : PField α) (ks : List (PField α)) (hk : s.kids = k0 :: ks) :
    (transposeSL s false >>= transposeLS) = .ok (reimported s k0) := by
  have ha := PStruct.aligned_of_validate hw hne hv
  have hm0 : k0 ∈ s.kids := hk ▸ List.mem_cons_self
  have hw0 := (PStruct.WF_iff.mp hw k0 hm0).1
  -- every field's window is as long as the re-based offsets of the first field reach
  have hkid := fun k (hkm : k ∈ s.kids) =>
    listFromArrays_ok (offs := rebased k0.list.offs) (vals := k.list.windowVals)
      (by rw [rebased, Ne, List.map_eq_nil_iff]; exact PList.WF.offs_ne_nil hw0)
      (by rw [rebased_head]; exact Nat.zero_le _) (Nat.le_of_eq (PStruct.windowVals_reach hw hne ha hm0 hkm).symm)
  rw [transposeSL_ok s hw hne ha k0 ks hk]
  simp only [transposeLS, Except.ok_bind, List.mapM_map]
  rw [show s.kids.mapM _ = .ok (reimported s k0).kids from mapM_ok_of_forall _ fun k hkm => by
    simp only [Function.comp, hkid k hkm, Except.ok_bind, Except.pure_eq]]
  exact structFromArrays_none_ok (by rw [reimported, hk]; exact List.cons_ne_nil _ _) _
    (List.forall_mem_map.mpr fun _ _ => List.length_replicate)

/-- a field of the re-imported chunk reads as the original field with every null list made an
    empty one: all its lists are valid, the re-based offsets cut the same extents out of the window,
    and a null list had an empty extent -/
theorem reimported_kid_rows {s : PStruct α} (hw : s.WF = true) (hne : s.nullEmpty = true) (hv : s.validate = .ok ())
    {k0 k : PField α} (hm0 : k0 ∈ s.kids) (hkm : k ∈ s.kids) :
    (PList.view (rebased k0.list.offs) k.list.windowVals).rows = k.list.rows.map fun r => some (r.getD []) := by
  have hwk := (PStruct.WF_iff.mp hw k hkm).1
  have ⟨_, hm, hl⟩ := PList.WF_iff.mp hwk
  rw [PList.rows_allValid, PStruct.validate_eq_ok.mp hv k0 hm0 k hkm, segs_rebased_window k.list hm hl,
    ← PList.rows_getD_eq_segs hwk (List.all_eq_true.mp hne k hkm), List.map_map]
  rfl

theorem reimported_len {s : PStruct α} (hw : s.WF = true) {k0 : PField α} (hm0 : k0 ∈ s.kids) :
    (reimported s k0).len = s.len := by
  have ⟨hw0, hl0⟩ := PStruct.WF_iff.mp hw k0 hm0
  simp only [reimported, PStruct.len, List.length_replicate, rebased, List.length_map, (PList.WF_iff.mp hw0).1,
    Nat.add_sub_cancel]
  exact hl0

theorem PStruct.rowAt_allValid {n : Nat} {kids : List (PField α)} {i : Nat} (hi : i < n) :
    (⟨List.replicate n true, kids⟩ : PStruct α).rowAt i = some (rowOfKids kids i) := by
  rw [PStruct.rowAt_eq, List.getD_eq_getElem?_getD, List.getElem?_replicate, if_pos hi]
  rfl

/-- every row of the re-imported chunk is present and holds what the original chunk stored there -/
theorem reimported_rowAt (s : PStruct α) (hw : s.WF = true) (hne : s.nullEmpty = true) (hv : s.validate = .ok ())
    (k0 : PField α) (ks : List (PField α)) (hk : s.kids = k0 :: ks) (i : Nat) (hi : i < s.len) :
    (reimported s k0).rowAt i = some (s.storedAt i) := by
  have hm0 : k0 ∈ s.kids := hk ▸ List.mem_cons_self
  have hi' : i < (reimported s k0).len := (reimported_len hw hm0).symm ▸ hi
  simp only [reimported, PStruct.len, List.length_replicate] at hi'
  rw [reimported, PStruct.rowAt_allValid hi', rowOfKids, PStruct.storedAt, List.map_map]
  refine congrArg some (List.map_congr_left fun k hkm => ?_)
  simp only [Function.comp, reimported_kid_rows hw hne hv hm0 hkm, List.getD_eq_getElem?_getD, List.getElem?_map]
  cases k.list.rows[i]? <;> rfl

theorem PStruct.storedAt_missing {s : PStruct α} (hh : s.noHidden) {i : Nat} (hi : i < s.len)
    (hv : s.valid.getD i false = false) : s.storedAt i = emptyTable s :=
  List.map_congr_left fun k hkm => by rw [List.eq_nil_of_length_eq_zero (hh i hi hv k hkm)]

/-- a chunk that shows at every position what `s` stores there shows the rows of `s`, a missing row
    as a table of empty lists -/
theorem PStruct.rows_of_storedAt {s s' : PStruct α} (hh : s.noHidden) (hlen : s'.len = s.len)
    (hrow : ∀ i, i < s.len → s'.rowAt i = some (s.storedAt i)) :
    s'.rows = s.rows.map fun r => some (r.getD (emptyTable s)) := by
  unfold PStruct.rows
  rw [hlen, List.map_map]
  refine List.map_congr_left fun i hi => ?_
  have hi := List.mem_range.mp hi
  rw [hrow i hi, Function.comp, PStruct.rowAt]
  cases hvi : s.valid.getD i false with
  | true => rfl
  | false => rw [PStruct.storedAt_missing hh hi hvi]; rfl

/-- **Round trip through the list-of-structs orientation, row by row**: present rows come back
    unchanged and missing rows come back as rows of empty lists. -/
theorem roundtrip_rows (s : PStruct α) (hw : s.WF = true) (hne : s.nullEmpty = true) (hv : s.validate = .ok ())
    (hh : s.noHidden) (k0 : PField α) (ks : List (PField α)) (hk : s.kids = k0 :: ks) :
    (reimported s k0).rows = s.rows.map fun r => some (r.getD (emptyTable s)) :=
  PStruct.rows_of_storedAt hh (reimported_len hw (hk ▸ List.mem_cons_self)) (reimported_rowAt s hw hne hv k0 ks hk)

end NP
