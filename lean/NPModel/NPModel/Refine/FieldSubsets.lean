/-
  Removing fields (`pop_fields`, `.nest.without_field`) and selecting fields (`view_fields`, `.nest[[fields]]`,
  `to_flat(fields)`): both rebuild every chunk from some of its kids under the same validity (`Rekid`).  The frame
  operations `NFrame.dropFields` / `NFrame.selectFields` (`nf[n] = nf[n].nest.without_field(…)` / `.nest[[…]]`) are
  modelled here, not in `Impl/`; then the chain of all frame operations (`FullOp`).
-/
import NPModel.Refine.CleanFields
namespace NP
variable {α : Type}

/-- a chunk rebuilt from SOME of the fields of a clean chunk (at least one, in any order), under the same validity,
    is clean -/
theorem subkids_chunkClean (ty : List (String × String)) (s : PStruct α) (h : ChunkClean ty s)
    (kids' : List (PField α)) (hsub : ∀ x ∈ kids', x ∈ s.kids) (s' : PStruct α)
    (hs' : structFromArrays kids' (some s.valid) = .ok s') :
    ChunkClean (kids'.map fun k => (k.name, k.ty)) s' ∧ kids' ≠ [] := by
  obtain ⟨rfl, hne⟩ := structFromArrays_some_inv hs'
  refine ⟨{ wf := ?_, ty_eq := rfl, nullEmpty := ?_, validated := ?_,
            noHidden := fun i hi hvi x hx => h.noHidden i hi hvi x (hsub x hx) }, hne⟩
  · exact PStruct.WF_iff.mpr fun x hx => PStruct.WF_iff.mp h.wf x (hsub x hx)
  · have hn := List.all_eq_true.mp h.nullEmpty
    exact List.all_eq_true.mpr fun x hx => hn x (hsub x hx)
  · have hv := PStruct.validate_eq_ok.mp h.validated
    exact PStruct.validate_eq_ok.mpr fun x hx y hy => hv x (hsub x hx) y (hsub y hy)

theorem rekid_rows {s : PStruct α} {kids' : List (PField α)} {T : Table α → Table α}
    (hT : ∀ i, rowOfKids kids' i = T (rowOfKids s.kids i)) :
    ({ valid := s.valid, kids := kids' } : PStruct α).rows = s.rows.map fun r => r.map T := by
  unfold PStruct.rows
  rw [List.map_map]
  apply List.map_congr_left
  intro i _
  simp only [Function.comp, PStruct.rowAt_eq, hT]
  cases s.valid.getD i false <;> rfl

/-- what `pop_fields` and `view_fields` do to one chunk: the same rows are missing, every present row's table goes
    through `T`, at least one field is left, and a clean chunk of type `ty` becomes a clean chunk of type `ty'` -/
structure Rekid (T : Table α → Table α) (ty ty' : List (String × String)) (s s' : PStruct α) : Prop where
  valid : s'.valid = s.valid
  kids_ne : s'.kids ≠ []
  rows : s'.rows = s.rows.map fun r => r.map T
  clean : ChunkClean ty s → ChunkClean ty' s'

theorem rekid_col {T : Table α → Table α} {c : PCol α} {ty' : List (String × String)} {chunks' : List (PStruct α)}
    (hne : c.chunks ≠ []) (h : All2 (Rekid T c.ty ty') c.chunks chunks') :
    PCol.rows { ty := ty', chunks := chunks' } = c.rows.map (fun r => r.map T) ∧
    chunks'.map (·.valid) = c.chunks.map (·.valid) ∧ chunks' ≠ [] ∧
    (c.Clean → PCol.Clean { ty := ty', chunks := chunks' }) := by
  have hne' : chunks' ≠ [] := fun h0 => hne (List.length_eq_zero_iff.mp (by rw [h.length_eq, h0]; rfl))
  refine ⟨?_, h.map_eq _ _ fun _ _ hr => hr.valid, hne', fun hc => ?_⟩
  · unfold PCol.rows
    rw [List.flatMap_def, h.map_eq _ (fun s => s.rows.map fun r => r.map T) fun _ _ hr => hr.rows,
      List.flatMap_def, List.map_flatten, List.map_map]
    rfl
  · have hch : ∀ s' ∈ chunks', ChunkClean ty' s' ∧ s'.kids ≠ [] := fun s' hs' =>
      have ⟨s, hs, hr⟩ := h.mem_right s' hs'
      ⟨hr.clean (hc.chunkClean s hs), hr.kids_ne⟩
    -- the declared type is not empty: the first chunk of the result has at least one field
    obtain ⟨s0, hs0⟩ := List.exists_mem_of_ne_nil _ hne'
    have hty : ty' ≠ [] := fun h0 => (hch s0 hs0).2 (List.map_eq_nil_iff.mp (((hch s0 hs0).1.ty_eq).trans h0))
    exact clean_of_chunks hty fun s' hs' => (hch s' hs').1

def Row.without (fs : List String) (r : Row α) : Row α := r.map fun t => t.filter fun p => ¬ fs.contains p.1

theorem popChunk_rekid (ty : List (String × String)) {fs : List String} {s s' : PStruct α}
    (h : structFromArrays (s.kids.filter fun k => ¬ fs.contains k.name) (some s.valid) = .ok s') :
    Rekid (fun t => t.filter fun p => ¬ fs.contains p.1) ty (ty.filter fun p => ¬ fs.contains p.1) s s' := by
  obtain ⟨rfl, hne⟩ := structFromArrays_some_inv h
  refine ⟨rfl, hne, rekid_rows fun i => ?_, fun hc => ?_⟩
  · unfold rowOfKids
    rw [List.filter_map]
    rfl
  · have := (subkids_chunkClean ty s hc _ (fun _ hx => (List.mem_filter.mp hx).1) _ h).1
    rw [← hc.ty_eq]
    unfold PStruct.ty
    rw [List.filter_map]
    exact this

theorem popFields_inv {c c' : PCol α} {fields : List String} (h : NArr.popFields c fields = .ok c') :
    c.chunks ≠ [] ∧ c'.ty = (c.ty.filter fun p => ¬ fields.eraseDups.contains p.1) ∧
    All2 (Rekid (fun t => t.filter fun p => ¬ fields.eraseDups.contains p.1) c.ty c'.ty) c.chunks c'.chunks := by
  simp only [NArr.popFields, exc, mapM_eq_ok] at h
  obtain ⟨names, hn, -, -, chunks, hch, rfl⟩ := h
  exact ⟨chunks_ne_of_fieldNames hn, rfl, hch.mono fun s s' _ _ hs => popChunk_rekid c.ty hs⟩

/-- `pop_fields` keeps storage clean: the remaining fields of every chunk under the chunk's own validity -/
theorem popFields_clean (c : PCol α) (h : c.Clean) (fields : List String) (c' : PCol α)
    (ho : NArr.popFields c fields = .ok c') : c'.Clean ∧ c'.chunks.length = c.chunks.length ∧ c'.chunks ≠ [] := by
  obtain ⟨hne, _, hall⟩ := popFields_inv ho
  have ⟨_, _, hne', hcl⟩ := rekid_col hne hall
  exact ⟨hcl h, hall.length_eq.symm, hne'⟩

theorem popFields_rows (c : PCol α) (fields : List String) (c' : PCol α)
    (ho : NArr.popFields c fields = .ok c') :
    c'.ty = (c.ty.filter fun p => ¬ fields.eraseDups.contains p.1) ∧
    c'.rows = c.rows.map (Row.without fields.eraseDups) ∧
    c'.chunks.map (·.valid) = c.chunks.map (·.valid) := by
  obtain ⟨hne, hty, hall⟩ := popFields_inv ho
  have ⟨hrows, hv, _, _⟩ := rekid_col hne hall
  exact ⟨hty, hrows, hv⟩

/-- the frame with one of its nested columns replaced by the same column without some fields
    (`nf[n] = nf[n].nest.without_field(fields)`: the accessor's `pop_fields` on a copy, then pandas' column assignment) -/
def NFrame.dropFields (F : NFrame α) (nest : String) (fields : List String) : R (NFrame α) := do
  let c ← F.nest? nest
  let c' ← NArr.popFields c fields
  pure (F.setCol nest (.nest c'))

theorem dropFields_sound (F : NFrame α) (h : F.Sound) (nest : String) (fields : List String) (F' : NFrame α)
    (hok : F.dropFields nest fields = .ok F') : F'.Sound := by
  obtain ⟨c, hc, hok⟩ := Except.bind_eq_ok.mp hok
  obtain ⟨c', hc', hok⟩ := Except.bind_eq_ok.mp hok
  cases hok
  exact setNest_sound h hc fun hcl _ =>
    have ⟨hcl', _, hne'⟩ := popFields_clean c hcl fields c' hc'
    ⟨hcl', hne', len_of_valid_eq (popFields_rows c fields c' hc').2.2⟩

/-- the field of a chunk `view_fields` picks by name -/
def pickKid (s : PStruct α) (f : String) : R (PField α) :=
  match s.kid? f with
  | some k => pure k
  | none => throw .keyError

def viewChunk (fields : List String) (s : PStruct α) : R (PStruct α) := do
  let kids ← fields.mapM (pickKid s)
  structFromArrays kids (some s.valid)

/-- `NArr.viewFields` written with named per-chunk steps (definitionally the same function) -/
theorem viewFields_eq (c : PCol α) (fields : List String) :
    NArr.viewFields c fields = (do
      let names ← NArr.fieldNames c
      if fields.eraseDups.length ≠ fields.length then throw .valueError
      if ¬ fields.all names.contains then throw .valueError
      let chunks ← c.chunks.mapM (viewChunk fields)
      pure { ty := fields.filterMap fun f => (c.ty.find? (·.1 == f)), chunks := chunks }) := by
  rfl

theorem pickKid_inv {s : PStruct α} {f : String} {k : PField α} (h : pickKid s f = .ok k) :
    s.kids.find? (·.name == f) = some k := by
  unfold pickKid at h
  split at h
  · cases h
    assumption
  · cases h

/-- the picked fields are fields of the chunk, and any name-keyed reading of them is the by-name selection -/
theorem pickKids_spec {β : Type} (s : PStruct α) (g : PField α → β) :
    ∀ (fields : List String) (kids : List (PField α)), fields.mapM (pickKid s) = .ok kids →
      (∀ x ∈ kids, x ∈ s.kids) ∧
      kids.map (fun k => (k.name, g k)) =
        fields.filterMap (fun f => (s.kids.map fun k => (k.name, g k)).find? (·.1 == f)) := by
  intro fields kids h
  replace h := mapM_eq_ok.mp h
  refine ⟨fun x hx => ?_, ?_⟩
  · obtain ⟨f, _, hf⟩ := h.mem_right x hx
    exact List.mem_of_find?_eq_some (pickKid_inv hf)
  · induction h with
    | nil => rfl
    | @cons f k _ _ hk _ ih =>
      have : (s.kids.map fun k => (k.name, g k)).find? (·.1 == f) = some (k.name, g k) :=
        List.find?_map.trans (congrArg (Option.map fun k => (k.name, g k)) (pickKid_inv hk))
      rw [List.map_cons, List.filterMap_cons, this, ih]

/-- a row restricted to the named fields, in the order they are named -/
def Row.select (fs : List String) (r : Row α) : Row α := r.map fun t => fs.filterMap fun f => t.find? (·.1 == f)

theorem viewChunk_rekid (ty : List (String × String)) {fields : List String} {s s' : PStruct α}
    (h : viewChunk fields s = .ok s') :
    Rekid (fun t => fields.filterMap fun f => t.find? (·.1 == f)) ty (fields.filterMap fun f => ty.find? (·.1 == f)) s s' := by
  obtain ⟨kids, hkids, h⟩ := Except.bind_eq_ok.mp h
  have ⟨hsub, hty⟩ := pickKids_spec s (·.ty) fields kids hkids
  obtain ⟨rfl, hne⟩ := structFromArrays_some_inv h
  refine ⟨rfl, hne, rekid_rows fun i => (pickKids_spec s _ fields kids hkids).2, fun hc => ?_⟩
  rw [← hc.ty_eq]
  exact hty ▸ (subkids_chunkClean ty s hc kids hsub _ h).1

theorem viewChunk_spec (ty : List (String × String)) (fields : List String) (s s' : PStruct α)
    (h : viewChunk fields s = .ok s') :
    s'.valid = s.valid ∧ s'.rows = s.rows.map (Row.select fields) ∧
    s'.ty = fields.filterMap (fun f => s.ty.find? (·.1 == f)) ∧
    (ChunkClean ty s → ChunkClean (fields.filterMap fun f => s.ty.find? (·.1 == f)) s') := by
  have ⟨hv, _, hr, hc⟩ := viewChunk_rekid ty h
  obtain ⟨kids, hkids, h⟩ := Except.bind_eq_ok.mp h
  obtain ⟨rfl, _⟩ := structFromArrays_some_inv h
  exact ⟨hv, hr, (pickKids_spec s (fun k => k.ty) fields kids hkids).2, fun hcl => hcl.ty_eq ▸ hc hcl⟩

theorem viewFields_spec (c : PCol α) (fields : List String) (c' : PCol α)
    (ho : NArr.viewFields c fields = .ok c') :
    c'.ty = fields.filterMap (fun f => c.ty.find? (·.1 == f)) ∧
    c'.rows = c.rows.map (Row.select fields) ∧
    c'.chunks.map (·.valid) = c.chunks.map (·.valid) ∧ c'.len = c.len ∧ c'.chunks ≠ [] ∧
    (c.Clean → c'.Clean) := by
  rw [viewFields_eq] at ho
  simp only [exc, mapM_eq_ok] at ho
  obtain ⟨names, hn, -, -, chunks, hch, rfl⟩ := ho
  have ⟨hrows, hv, hne', hcl⟩ := rekid_col (chunks_ne_of_fieldNames hn) (hch.mono fun s s' _ _ => viewChunk_rekid c.ty)
  exact ⟨rfl, hrows, hv, len_of_valid_eq hv, hne', hcl⟩

/-- the frame with one of its nested columns replaced by a selection of its fields
    (`nf[n] = nf[n].nest[[fields]]`) -/
def NFrame.selectFields (F : NFrame α) (nest : String) (fields : List String) : R (NFrame α) := do
  let c ← F.nest? nest
  let c' ← NArr.viewFields c fields
  pure (F.setCol nest (.nest c'))

theorem selectFields_sound (F : NFrame α) (h : F.Sound) (nest : String) (fields : List String) (F' : NFrame α)
    (hok : F.selectFields nest fields = .ok F') : F'.Sound := by
  obtain ⟨c, hc, hok⟩ := Except.bind_eq_ok.mp hok
  obtain ⟨c', hc', hok⟩ := Except.bind_eq_ok.mp hok
  cases hok
  exact setNest_sound h hc fun hcl _ =>
    have ⟨_, _, _, hl, hne', hcl'⟩ := viewFields_spec c fields c' hc'
    ⟨hcl' hcl, hne', hl⟩

/-- `AllOp`, field removal and field selection: every frame operation of the model -/
inductive FullOp where
  | all (op : AllOp)
  | dropFields (nest : String) (fields : List String)
  | selectFields (nest : String) (fields : List String)

def FullOp.run (F : NFrame Cell) : FullOp → R (NFrame Cell)
  | .all op => op.run F
  | .dropFields nest fields => F.dropFields nest fields
  | .selectFields nest fields => F.selectFields nest fields

def runFullChain (F : NFrame Cell) : List FullOp → R (NFrame Cell)
  | [] => .ok F
  | op :: ops => match op.run F with
    | .ok F' => runFullChain F' ops
    | .error e => .error e

theorem FullOp.run_sound {F F' : NFrame Cell} (h : F.Sound) : ∀ {op : FullOp}, op.run F = .ok F' → F'.Sound
  | .all _, hr => AllOp.run_sound h hr
  | .dropFields nest fields, hr => dropFields_sound F h nest fields F' hr
  | .selectFields nest fields, hr => selectFields_sound F h nest fields F' hr

theorem runFullChain_sound : ∀ (ops : List FullOp) (F : NFrame Cell), F.Sound → ∀ F', runFullChain F ops = .ok F' → F'.Sound :=
  chain_invariant (fun _ => rfl) (fun G op ops => by rw [runFullChain]; cases op.run G <;> rfl)
    fun _ _ _ hG => FullOp.run_sound hG

end NP
