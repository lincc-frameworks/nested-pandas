/-
  `pack_flat` on lists: stable sort of the (label, position) pairs by label, then the packer; and
  the vocabulary of the end-to-end statements (`packedKeys`, `recordsOf`, `firstLabels`).
-/
import NPModel.Refine.Runs
import NPModel.Refine.LabelOrder
namespace NP
variable {α : Type}

/-- the table `pack_flat` hands to the packer: records stably sorted by label -/
def sortedByLabel (xs : List (Label × α)) : List (Label × α) := xs.mergeSort fun a b => a.1.le b.1

theorem sortedByLabel_sorted (xs : List (Label × α)) :
    ((sortedByLabel xs).map (·.1)).Pairwise (fun a b => a.le b = true) :=
  List.pairwise_map.mpr
    (List.pairwise_mergeSort (fun a b c => Label.le_trans a.1 b.1 c.1) (fun a b => Label.le_total a.1 b.1) xs)

/-- **pack_flat**: for every label `k` that gets a row `(k, l)` in the packed column, `l` is the
    list of records that carried `k` in the original (unsorted) table, in their original
    relative order; the packed rows are exactly the non-empty label groups, in ascending label
    order, and the packed index lists their labels. -/
theorem packFlat_rows (xs : List (Label × α)) (k : Label) (l : List α) (hm : (k, l) ∈ toRuns (sortedByLabel xs)) :
    let s := sortedByLabel xs
    l = valsOfLabel k (xs.map (·.1)) (xs.map (·.2)) ∧
    segs (packOffsets (s.map (·.1))) (s.map (·.2)) = (nonemptyRuns (toRuns s)).map (·.2) ∧
    ((packOffsets (s.map (·.1))).dropLast).map (fun o => (s.map (·.1)).getD o k) = (nonemptyRuns (toRuns s)).map (·.1) := by
  intro s
  have h := packed_row_of_sorted Label.le Label.le_antisymm s (sortedByLabel_sorted xs) hm
  refine ⟨?_, h.2.1, h.2.2⟩
  -- the stable sort keeps the subsequence of every label
  rw [← h.1, valsOfLabel_map₂, valsOfLabel_map₂]
  exact congrArg _ (filter_mergeSort_key Label.le Label.le_trans Label.le_total xs k)

theorem sortedByLabel_perm (xs : List (Label × α)) : (sortedByLabel xs).Perm xs := List.mergeSort_perm _ _

theorem packFlat_index_strictly_ascending (xs : List (Label × α)) :
    ((toRuns (sortedByLabel xs)).map (·.1)).Pairwise (fun a b => a.le b = true ∧ a ≠ b) :=
  toRuns_keys_distinct Label.le Label.le_trans Label.le_antisymm _ (sortedByLabel_sorted xs)

/-- positions of the flat records labelled `l`, ascending -/
def recordsOf (index : List Label) (l : Label) : List Nat := valsOfLabel l index (List.range index.length)

/-- labels of the packed column: the distinct labels of the flat table -/
def packedKeys (index : List Label) : List Label := (toRuns (sortedByLabel index.zipIdx)).map (·.1)

/-- labels of the base rows `from_flat` makes: the first occurrence of every label -/
def firstLabels (index : List Label) : List Label := filterBy ((duplicatedFirst index).map (!·)) index

theorem zipIdx_snd (index : List Label) : index.zipIdx.map (·.2) = List.range index.length := by
  rw [List.zipIdx_map_snd 0 index, List.range_eq_range']

theorem stableSortPerm_eq (index : List Label) : stableSortPerm index = (sortedByLabel index.zipIdx).map (·.2) := rfl

theorem reorder_index (index : List Label) :
    (stableSortPerm index).map (fun i => index.getD i (.int 0)) = (sortedByLabel index.zipIdx).map (·.1) := by
  rw [stableSortPerm_eq, List.map_map]
  apply List.map_congr_left
  intro p hp
  have := List.mem_zipIdx_iff_getElem?.mp ((sortedByLabel_perm _).mem_iff.mp hp)
  simp [List.getD_eq_getElem?_getD, this]

theorem mem_packedKeys (index : List Label) (l : Label) : l ∈ packedKeys index ↔ l ∈ index := by
  unfold packedKeys
  rw [mem_toRuns_keys, ((sortedByLabel_perm _).map _).mem_iff, List.zipIdx_map_fst]

theorem packedKeys_strict (index : List Label) :
    (packedKeys index).Pairwise (fun a b => a.le b = true ∧ a ≠ b) := packFlat_index_strictly_ascending _

theorem recordsOf_eq (index : List Label) (k : Label) :
    recordsOf index k = (index.zipIdx.filter fun p => p.1 == k).map (·.2) := by
  unfold recordsOf
  rw [← valsOfLabel_map₂, List.zipIdx_map_fst, zipIdx_snd]

theorem recordsOf_eq_nil_iff (index : List Label) (l : Label) : recordsOf index l = [] ↔ l ∉ index := by
  rw [recordsOf_eq, List.map_eq_nil_iff, List.filter_eq_nil_iff]
  conv => rhs; rw [← List.zipIdx_map_fst 0 index, List.mem_map]
  simp only [beq_iff_eq, not_exists, not_and]

theorem valsOfLabel_sortedByLabel (index : List Label) (g : Nat → α) (k : Label) :
    valsOfLabel k ((sortedByLabel index.zipIdx).map (·.1)) (((sortedByLabel index.zipIdx).map (·.2)).map g)
      = (recordsOf index k).map g := by
  rw [List.map_map, valsOfLabel_map₂, recordsOf_eq, List.map_map]
  exact congrArg _ (filter_mergeSort_key Label.le Label.le_trans Label.le_total _ k)

theorem firstLabels_sorted (index : List Label) :
    firstLabels ((sortedByLabel index.zipIdx).map (·.1)) = packedKeys index := by
  have hd : ((toRuns (sortedByLabel index.zipIdx)).map (·.1)).Pairwise (· ≠ ·) :=
    (packedKeys_strict index).imp fun h => h.2
  have := firstKeys_runs hd
  rwa [nonemptyRuns_toRuns, (toRuns_labels_vals _).1] at this

theorem mem_dupFirst_keys {β : Type} [BEq β] [LawfulBEq β] (x : β) (ls seen : List β) :
    x ∈ filterBy ((dupFirstGo seen ls).map (!·)) ls ↔ x ∈ ls ∧ x ∉ seen := by
  induction ls generalizing seen with
  | nil => simp
  | cons l ls ih =>
    rw [dupFirstGo, List.map_cons, List.mem_cons, List.contains_eq_mem]
    by_cases hs : l ∈ seen
    · rw [decide_eq_true hs, Bool.not_true, filterBy_cons_false, ih, List.mem_cons, not_or]
      by_cases e : x = l
      · simp [e, hs]
      · simp [e]
    · rw [decide_eq_false hs, Bool.not_false, filterBy_cons_true, List.mem_cons, ih, List.mem_cons, not_or]
      by_cases e : x = l
      · simp [e, hs]
      · simp [e]

theorem mem_firstLabels {index : List Label} {l : Label} : l ∈ firstLabels index ↔ l ∈ index := by
  simpa [firstLabels, duplicatedFirst, dupFirstGen] using mem_dupFirst_keys l index []

theorem packed_runs (index : List Label) :
    (toRuns (sortedByLabel index.zipIdx)).map (·.2) = (packedKeys index).map (recordsOf index) := by
  show _ = ((toRuns (sortedByLabel index.zipIdx)).map (·.1)).map _
  rw [List.map_map]
  apply List.map_congr_left
  intro r hr
  have h := (packFlat_rows index.zipIdx r.1 r.2 hr).1
  rwa [List.zipIdx_map_fst, zipIdx_snd] at h

theorem records_flatten (index : List Label) :
    ((packedKeys index).map (recordsOf index)).flatten = stableSortPerm index := by
  rw [← packed_runs, ← List.flatMap_def]
  exact (toRuns_labels_vals _).2

theorem labels_repeat (index : List Label) :
    repeatEach (packedKeys index) ((packedKeys index).map fun k => (recordsOf index k).length) =
      (sortedByLabel index.zipIdx).map (·.1) := by
  have h : ((packedKeys index).map fun k => (recordsOf index k).length) =
      (toRuns (sortedByLabel index.zipIdx)).map (·.2.length) := by
    have := congrArg (List.map List.length) (packed_runs index)
    rw [List.map_map, List.map_map] at this
    exact this.symm
  rw [h]
  show repeatEach ((toRuns (sortedByLabel index.zipIdx)).map (·.1)) _ = _
  rw [repeatEach_runs, (toRuns_labels_vals _).1]

end NP
