/-
  NPModel.Refine.Segs — pure `List` facts, then offsets, extents and the canonical layout.
  `segs` and `diffs` pair each offset with the next (`segs_eq_zipWith`, `diffs_eq_zipWith`).  Monotone
  offsets are cumulative sums (`monotone_cases`) and cutting by cumulative sums is splitting by lengths
  (`segs_offsetsFrom_splitBy`): a statement under `monotone` is proved for `offsetsFrom b ls` and transferred.
-/
import NPModel.Spec.Ops
namespace NP
variable {α : Type}

theorem any_imp {β : Type} {p q : β → Bool} {l : List β} (h : ∀ x, p x = true → q x = true) (hp : l.any p = true) :
    l.any q = true :=
  have ⟨x, hx, hpx⟩ := List.any_eq_true.mp hp
  List.any_eq_true.mpr ⟨x, hx, h x hpx⟩

theorem getD_map {β γ : Type} (f : β → γ) (l : List β) (i : Nat) (d : β) :
    (l.map f).getD i (f d) = f (l.getD i d) := by
  simp only [List.getD_eq_getElem?_getD, List.getElem?_map]
  cases l[i]? <;> rfl

theorem getD_drop_take {β : Type} {l : List β} {st n i : Nat} {d : β} (h : i < n) :
    ((l.drop st).take n).getD i d = l.getD (st + i) d := by
  simp only [List.getD_eq_getElem?_getD, List.getElem?_take, if_pos h, List.getElem?_drop]

theorem ext_getD {β : Type} (d : β) {l₁ l₂ : List β} (hl : l₁.length = l₂.length)
    (h : ∀ i, i < l₁.length → l₁.getD i d = l₂.getD i d) : l₁ = l₂ := by
  apply List.ext_getElem hl
  intro i h₁ h₂
  have := h i h₁
  rwa [List.getD_eq_getElem?_getD, List.getD_eq_getElem?_getD, List.getElem?_eq_getElem h₁, List.getElem?_eq_getElem h₂] at this

theorem range_getD_self {β : Type} (l : List β) (d : β) : (List.range l.length).map (fun i => l.getD i d) = l := by
  apply List.ext_getElem (by rw [List.length_map, List.length_range])
  intro i _ h
  rw [List.getElem_map, List.getElem_range, List.getD_eq_getElem?_getD, List.getElem?_eq_getElem h, Option.getD_some]

theorem map_range_getD {β γ : Type} (f : β → γ) (l : List β) (d : β) :
    (List.range l.length).map (fun j => f (l.getD j d)) = l.map f :=
  (List.map_map ..).symm.trans (congrArg (List.map f) (range_getD_self l d))

theorem getD_mem {β : Type} {l : List β} {i : Nat} (h : i < l.length) (d : β) : l.getD i d ∈ l :=
  List.getElem_eq_getD (h := h) d ▸ List.getElem_mem h

theorem getD_append_left {β : Type} {l₁ l₂ : List β} {i : Nat} {d : β} (h : i < l₁.length) :
    (l₁ ++ l₂).getD i d = l₁.getD i d := by
  rw [List.getD_eq_getElem?_getD, List.getElem?_append_left h, List.getD_eq_getElem?_getD]

theorem getD_append_right {β : Type} {l₁ l₂ : List β} {i : Nat} {d : β} (h : l₁.length ≤ i) :
    (l₁ ++ l₂).getD i d = l₂.getD (i - l₁.length) d := by
  rw [List.getD_eq_getElem?_getD, List.getElem?_append_right h, List.getD_eq_getElem?_getD]

theorem flatMap_congr {β γ : Type} {l : List β} {f g : β → List γ} (h : ∀ x ∈ l, f x = g x) :
    l.flatMap f = l.flatMap g := by
  rw [List.flatMap_def, List.flatMap_def, List.map_congr_left h]

theorem length_window {β : Type} {l : List β} {st n : Nat} (h : st + n ≤ l.length) : ((l.drop st).take n).length = n :=
  List.length_take_of_le (by rw [List.length_drop]; exact Nat.le_sub_of_add_le (Nat.add_comm st n ▸ h))

theorem drop_take_eq_map_getD {β : Type} (l : List β) (a k : Nat) (d : β) (h : a + k ≤ l.length) :
    (l.drop a).take k = (List.range k).map fun i => l.getD (a + i) d := by
  refine (range_getD_self _ d).symm.trans ?_
  rw [length_window h]
  exact List.map_congr_left fun i hi => getD_drop_take (List.mem_range.mp hi)

theorem all_range'_getD {β : Type} (d : β) (Q : β → Bool) {l : List β} {k : Nat} (hk : k ≤ l.length) :
    (List.range' 0 k).all (fun s => Q (l.getD s d)) = (l.take k).all Q := by
  have := drop_take_eq_map_getD l 0 k d (by rwa [Nat.zero_add])
  simp only [List.drop_zero, Nat.zero_add] at this
  rw [this, List.all_map, List.range_eq_range']
  rfl

/-- the bounds check `indices.any (· ≥ n)` of `replace_with_mask` and `setItemReorder`: with indices
    below `k` that reach `k - 1`, it fires exactly when `n < k` -/
theorem any_ge_eq {l : List Nat} {k : Nat} (hlt : ∀ x ∈ l, x < k) (hmem : k - 1 ∈ l) (n : Nat) :
    l.any (fun i => decide (i ≥ n)) = decide (n < k) := by
  rw [Bool.eq_iff_iff, List.any_eq_true, decide_eq_true_eq]
  exact ⟨fun ⟨x, hx, h⟩ => Nat.lt_of_le_of_lt (of_decide_eq_true h) (hlt x hx),
    fun h => ⟨_, hmem, decide_eq_true (Nat.le_sub_one_of_lt h)⟩⟩

theorem mem_window {β : Type} {l : List β} {st n : Nat} : ∀ x ∈ (l.drop st).take n, x ∈ l :=
  fun _ hx => List.mem_of_mem_drop (List.mem_of_mem_take hx)

theorem zipWith_map_range {β γ δ : Type} {F : β → γ → δ} (g : Nat → β) (d : γ) {n : Nat} {L : List γ} (hL : L.length = n) :
    List.zipWith F ((List.range n).map g) L = (List.range n).map fun i => F (g i) (L.getD i d) := by
  subst hL
  rw [← congrArg (List.zipWith F _) (range_getD_self L d), List.zipWith_map, List.zipWith_self]

theorem zipWith_zipWith_map_right {β γ δ ε ζ : Type} (F : β → ε → ζ) (G : γ → δ → ε) (h : β → δ) :
    ∀ (l : List β) (vs : List γ),
      List.zipWith F l (List.zipWith G vs (l.map h)) = List.zipWith (fun a v => F a (G v (h a))) l vs
  | [], _ => by simp
  | _ :: _, [] => by simp
  | a :: l, v :: vs => by simp [zipWith_zipWith_map_right F G h l vs]

/-- mapping over a `zipWith` of lists of equal length whose result, position by position, depends on
    the right element alone -/
theorem map_zipWith_of_right {β γ δ ε : Type} {f : β → γ → δ} {g : δ → ε} (gb : γ → ε) {as : List β} {bs : List γ}
    (hl : as.length = bs.length)
    (h : ∀ (j : Nat) (a : β) (b : γ), as[j]? = some a → bs[j]? = some b → g (f a b) = gb b) :
    (List.zipWith f as bs).map g = bs.map gb := by
  induction as generalizing bs with
  | nil => cases bs with | nil => rfl | cons _ _ => cases hl
  | cons a as ih =>
    cases bs with
    | nil => cases hl
    | cons b bs =>
      exact (congrArg (· :: _) (h 0 a b rfl rfl)).trans
        (congrArg (_ :: ·) (ih (Nat.succ.inj hl) fun j => h (j + 1)))

/-- the same with the side chosen by `p`: the left element alone for `p = true` -/
theorem map_zipWith_side {β γ δ ε : Type} {f : β → γ → δ} {g : δ → ε} {ga : β → ε} {gb : γ → ε} {p : Bool}
    {as : List β} {bs : List γ} (hl : as.length = bs.length)
    (h : ∀ (j : Nat) (a : β) (b : γ), as[j]? = some a → bs[j]? = some b → g (f a b) = if p then ga a else gb b) :
    (List.zipWith f as bs).map g = if p then as.map ga else bs.map gb := by
  cases p
  · exact map_zipWith_of_right gb hl h
  · rw [List.zipWith_comm]
    exact map_zipWith_of_right ga hl.symm fun j b a hb ha => h j a b ha hb

theorem mem_zipWith_getElem {β γ δ : Type} {f : β → γ → δ} {as : List β} {bs : List γ} {x : δ}
    (hx : x ∈ List.zipWith f as bs) : ∃ (j : Nat) (a : β) (b : γ), as[j]? = some a ∧ bs[j]? = some b ∧ x = f a b := by
  obtain ⟨j, hj⟩ := List.mem_iff_getElem?.mp hx
  obtain ⟨a, b, ha, hb, e⟩ := List.getElem?_zipWith_eq_some.mp hj
  exact ⟨j, a, b, ha, hb, e.symm⟩

theorem find_of_nodup_keys {β : Type} (t : List (String × β)) (hn : (t.map (·.1)).Nodup) :
    ∀ x ∈ t, t.find? (·.1 == x.1) = some x := by
  induction t with
  | nil => intro x hx; cases hx
  | cons a t ih =>
    intro x hx
    simp only [List.map_cons, List.nodup_cons] at hn
    rcases List.mem_cons.mp hx with rfl | hx'
    · exact List.find?_cons_of_pos (p := fun y : String × β => y.1 == x.1) (beq_iff_eq.mpr rfl)
    · rw [List.find?_cons_of_neg (p := fun y : String × β => y.1 == x.1) fun e =>
        hn.1 ((eq_of_beq e : a.1 = x.1) ▸ List.mem_map.mpr ⟨x, hx', rfl⟩)]
      exact ih hn.2 x hx'

@[simp] theorem segs_nil (vals : List α) : segs [] vals = [] := rfl
@[simp] theorem segs_single (a : Nat) (vals : List α) : segs [a] vals = [] := rfl
@[simp] theorem segs_cons₂ (a b : Nat) (rest : List Nat) (vals : List α) :
    segs (a :: b :: rest) vals = ((vals.drop a).take (b - a)) :: segs (b :: rest) vals := rfl

@[simp] theorem diffs_nil : diffs [] = [] := rfl
@[simp] theorem diffs_single (a : Nat) : diffs [a] = [] := rfl
@[simp] theorem diffs_cons₂ (a b : Nat) (rest : List Nat) : diffs (a :: b :: rest) = (b - a) :: diffs (b :: rest) := rfl

@[simp] theorem monotone_cons₂ (a b : Nat) (rest : List Nat) :
    monotone (a :: b :: rest) = (decide (a ≤ b) && monotone (b :: rest)) := rfl

theorem segs_eq_zipWith (vals : List α) : ∀ offs : List Nat,
    segs offs vals = List.zipWith (fun a b => (vals.drop a).take (b - a)) offs offs.tail
  | [] => rfl
  | [_] => rfl
  | a :: b :: rest => by rw [segs_cons₂, segs_eq_zipWith vals (b :: rest)]; rfl

theorem diffs_eq_zipWith : ∀ offs : List Nat, diffs offs = List.zipWith (fun a b => b - a) offs offs.tail
  | [] => rfl
  | [_] => rfl
  | a :: b :: rest => by rw [diffs_cons₂, diffs_eq_zipWith (b :: rest)]; rfl

theorem segs_length (offs : List Nat) (vals : List α) : (segs offs vals).length = offs.length - 1 := by
  simp [segs_eq_zipWith]

theorem segs_drop (offs : List Nat) (vals : List α) (k : Nat) :
    segs (offs.drop k) vals = (segs offs vals).drop k := by
  simp only [segs_eq_zipWith, List.drop_zipWith, List.tail_drop, List.drop_tail]

theorem segs_take (vals : List α) : ∀ (offs : List Nat) (k : Nat),
    segs (offs.take (k + 1)) vals = (segs offs vals).take k
  | [], _ => by simp
  | [_], _ => by simp
  | _ :: _ :: _, 0 => rfl
  | a :: b :: rest, k + 1 => by
    rw [List.take_succ_cons, List.take_succ_cons, segs_cons₂, ← List.take_succ_cons, segs_take vals (b :: rest) k,
      segs_cons₂, List.take_succ_cons]

theorem segs_window (offs : List Nat) (vals : List α) (st n : Nat) :
    segs ((offs.drop st).take (n + 1)) vals = ((segs offs vals).drop st).take n := by
  rw [segs_take, segs_drop]

theorem monotone_iff_pairwise : ∀ {l : List Nat}, monotone l = true ↔ l.Pairwise (· ≤ ·)
  | [] => by simp [monotone]
  | [_] => by simp [monotone]
  | a :: b :: rest => by
    rw [monotone_cons₂, Bool.and_eq_true, decide_eq_true_eq, monotone_iff_pairwise, List.pairwise_cons (a := a)]
    refine and_congr_left fun h => ⟨fun hab x hx => ?_, fun h' => h' b List.mem_cons_self⟩
    rcases List.mem_cons.mp hx with rfl | hx
    · exact hab
    · exact Nat.le_trans hab ((List.pairwise_cons.mp h).1 x hx)

theorem monotone_window {l : List Nat} (h : monotone l = true) (st n : Nat) : monotone ((l.drop st).take n) = true :=
  monotone_iff_pairwise.mpr (((monotone_iff_pairwise.mp h).sublist (List.drop_sublist st l)).sublist (List.take_sublist n _))

theorem sumNat_eq_sum (l : List Nat) : sumNat l = l.sum := by
  simp [sumNat, List.sum]

theorem sumNat_cons (a : Nat) (l : List Nat) : sumNat (a :: l) = a + sumNat l := rfl

theorem sumNat_append (a b : List Nat) : sumNat (a ++ b) = sumNat a + sumNat b := by
  simp only [sumNat_eq_sum, List.sum_append]

@[simp] theorem repeatEach_cons {β : Type} (x : β) (xs : List β) (c : Nat) (cs : List Nat) :
    repeatEach (x :: xs) (c :: cs) = List.replicate c x ++ repeatEach xs cs := rfl

theorem repeatEach_length {β : Type} : ∀ {xs : List β} {cs : List Nat}, xs.length = cs.length →
    (repeatEach xs cs).length = sumNat cs
  | [], [], _ => rfl
  | [], _ :: _, h => nomatch h
  | _ :: _, [], h => nomatch h
  | x :: xs, c :: cs, h => by
    rw [repeatEach_cons, List.length_append, List.length_replicate, sumNat_cons, repeatEach_length (Nat.succ.inj h)]

theorem length_flatten_sumNat {β : Type} (ls : List (List β)) : ls.flatten.length = sumNat (ls.map List.length) := by
  rw [sumNat_eq_sum, List.length_flatten]

@[simp] theorem offsetsFrom_nil (b : Nat) : offsetsFrom b [] = [b] := rfl
@[simp] theorem offsetsFrom_cons (b l : Nat) (ls : List Nat) :
    offsetsFrom b (l :: ls) = b :: offsetsFrom (b + l) ls := rfl

theorem offsetsFrom_eq_cons (b : Nat) (ls : List Nat) : offsetsFrom b ls = b :: (offsetsFrom b ls).drop 1 := by
  cases ls <;> rfl

theorem offsetsFrom_head (b : Nat) (ls : List Nat) : (offsetsFrom b ls).headD 0 = b := by
  rw [offsetsFrom_eq_cons, List.headD_cons]

theorem offsetsFrom_length (b : Nat) (ls : List Nat) : (offsetsFrom b ls).length = ls.length + 1 := by
  induction ls generalizing b with
  | nil => rfl
  | cons l ls ih => simp [ih]

theorem offsetsFrom_last (b : Nat) (ls : List Nat) :
    (offsetsFrom b ls).getLast?.getD 0 = b + sumNat ls := by
  induction ls generalizing b with
  | nil => simp [sumNat]
  | cons l ls ih =>
    rw [offsetsFrom_cons, offsetsFrom_eq_cons, List.getLast?_cons_cons, ← offsetsFrom_eq_cons, ih, sumNat_cons,
      Nat.add_assoc]

theorem offsetsFrom_last_mem {b : Nat} {ls : List Nat} : b + sumNat ls ∈ offsetsFrom b ls := by
  induction ls generalizing b with
  | nil => exact List.mem_singleton.mpr rfl
  | cons l ls ih =>
    rw [offsetsFrom_cons, sumNat_cons, ← Nat.add_assoc]
    exact List.mem_cons_of_mem _ ih

theorem mem_offsetsFrom {b x : Nat} {ls : List Nat} (h : x ∈ offsetsFrom b ls) : b ≤ x ∧ x ≤ b + sumNat ls := by
  induction ls generalizing b with
  | nil => rw [offsetsFrom_nil, List.mem_singleton] at h; subst h; exact ⟨Nat.le_refl _, Nat.le_add_right _ _⟩
  | cons l ls ih =>
    rw [sumNat_cons, ← Nat.add_assoc]
    rcases List.mem_cons.mp h with rfl | h
    · exact ⟨Nat.le_refl _, Nat.le_trans (Nat.le_add_right _ _) (Nat.le_add_right _ _)⟩
    · exact ⟨Nat.le_trans (Nat.le_add_right _ _) (ih h).1, (ih h).2⟩

theorem diffs_offsetsFrom (b : Nat) (ls : List Nat) : diffs (offsetsFrom b ls) = ls := by
  induction ls generalizing b with
  | nil => rfl
  | cons l ls ih => rw [offsetsFrom_cons, offsetsFrom_eq_cons, diffs_cons₂, ← offsetsFrom_eq_cons, ih]; simp

theorem monotone_offsetsFrom {b : Nat} {ls : List Nat} : monotone (offsetsFrom b ls) = true := by
  induction ls generalizing b with
  | nil => rfl
  | cons l ls ih => rw [offsetsFrom_cons, offsetsFrom_eq_cons, monotone_cons₂, ← offsetsFrom_eq_cons, ih]; simp

theorem offsetsFrom_map_sub {b h : Nat} {ls : List Nat} (hb : h ≤ b) :
    (offsetsFrom b ls).map (· - h) = offsetsFrom (b - h) ls := by
  induction ls generalizing b with
  | nil => rfl
  | cons l ls ih =>
    rw [offsetsFrom_cons, List.map_cons, ih (Nat.le_trans hb (Nat.le_add_right b l)), Nat.sub_add_comm hb,
      offsetsFrom_cons]

theorem rebased_offsetsFrom (b : Nat) (ls : List Nat) : rebased (offsetsFrom b ls) = offsetsFrom 0 ls := by
  rw [rebased, offsetsFrom_head, offsetsFrom_map_sub (Nat.le_refl _), Nat.sub_self]

theorem monotone_cases : ∀ {offs : List Nat}, monotone offs = true → offs = [] ∨ ∃ b ls, offs = offsetsFrom b ls
  | [], _ => .inl rfl
  | [a], _ => .inr ⟨a, [], rfl⟩
  | a :: b :: rest, h => by
    simp only [monotone_cons₂, Bool.and_eq_true, decide_eq_true_eq] at h
    obtain hn | ⟨b', ls, e⟩ := monotone_cases h.2
    · cases hn
    · obtain rfl : b = b' := by rw [offsetsFrom_eq_cons] at e; exact (List.cons.inj e).1
      exact .inr ⟨a, (b - a) :: ls, by rw [offsetsFrom_cons, e, Nat.add_sub_cancel' h.1]⟩

theorem segs_offsetsFrom_splitBy : ∀ (lens : List Nat) (b : Nat) (xs : List α),
    segs (offsetsFrom b lens) xs = Spec.splitBy lens (xs.drop b)
  | [], _, _ => rfl
  | l :: ls, b, xs => by
    rw [offsetsFrom_cons, offsetsFrom_eq_cons (b + l) ls, segs_cons₂, ← offsetsFrom_eq_cons,
      segs_offsetsFrom_splitBy ls (b + l) xs, Spec.splitBy, Nat.add_sub_cancel_left, List.drop_drop]

theorem splitBy_length : ∀ (lens : List Nat) (ys : List α), (Spec.splitBy lens ys).length = lens.length
  | [], _ => rfl
  | _ :: ls, _ => congrArg (· + 1) (splitBy_length ls _)

theorem splitBy_lengths : ∀ {lens : List Nat} {xs : List α}, sumNat lens ≤ xs.length →
    (Spec.splitBy lens xs).map List.length = lens
  | [], _, _ => rfl
  | l :: ls, xs, h => by
    rw [sumNat_cons] at h
    rw [Spec.splitBy, List.map_cons, splitBy_lengths (by rw [List.length_drop]; exact Nat.le_sub_of_add_le' h),
      List.length_take, Nat.min_eq_left (Nat.le_trans (Nat.le_add_right _ _) h)]

theorem splitBy_flatten_take : ∀ (lens : List Nat) (xs : List α),
    (Spec.splitBy lens xs).flatten = xs.take (sumNat lens)
  | [], _ => by simp [Spec.splitBy, sumNat]
  | l :: ls, xs => by
    rw [Spec.splitBy, List.flatten_cons, splitBy_flatten_take ls, sumNat_cons, List.take_add]

theorem splitBy_flatten {β : Type} {lens : List Nat} {xs : List β} (h : xs.length = sumNat lens) :
    (Spec.splitBy lens xs).flatten = xs ∧ (Spec.splitBy lens xs).map List.length = lens :=
  ⟨by rw [splitBy_flatten_take, ← h, List.take_length], splitBy_lengths (Nat.le_of_eq h.symm)⟩

theorem splitBy_take : ∀ {lens : List Nat} {xs : List α} {n : Nat}, sumNat lens ≤ n →
    Spec.splitBy lens (xs.take n) = Spec.splitBy lens xs
  | [], _, _, _ => rfl
  | l :: ls, xs, n, h => by
    rw [sumNat_cons] at h
    rw [Spec.splitBy, Spec.splitBy, List.take_take, Nat.min_eq_left (Nat.le_trans (Nat.le_add_right _ _) h),
      List.drop_take, splitBy_take (Nat.le_sub_of_add_le' h)]

theorem splitBy_canonical : ∀ (ls : List (List α)) (post : List α),
    Spec.splitBy (ls.map List.length) (ls.flatten ++ post) = ls
  | [], _ => rfl
  | l :: ls, post => by
    simp only [List.map_cons, List.flatten_cons, Spec.splitBy, List.append_assoc, List.take_left',
      List.drop_left', splitBy_canonical ls post]

theorem splitBy_map {β γ : Type} (g : β → γ) (lens : List Nat) (xs : List β) :
    Spec.splitBy lens (xs.map g) = (Spec.splitBy lens xs).map (List.map g) := by
  induction lens generalizing xs with
  | nil => rfl
  | cons n ns ih => rw [Spec.splitBy, Spec.splitBy, List.map_cons, List.map_take, ← List.map_drop, ih]

/-- flat position of the first record of row `i` -/
def rowStart (lens : List Nat) (i : Nat) : Nat := sumNat (lens.take i)

theorem splitBy_getD {β : Type} (lens : List Nat) (xs : List β) (i : Nat) :
    (Spec.splitBy lens xs).getD i [] = (xs.drop (rowStart lens i)).take (lens.getD i 0) := by
  induction lens generalizing xs i with
  | nil => rfl
  | cons n ns ih =>
    cases i with
    | zero => rfl
    | succ i =>
      rw [Spec.splitBy, List.getD_cons_succ, ih, List.drop_drop]
      rfl

theorem rowStart_add_le (lens : List Nat) (i : Nat) : rowStart lens i + lens.getD i 0 ≤ sumNat lens := by
  induction lens generalizing i with
  | nil => rw [rowStart, List.take_nil]; exact Nat.le_refl 0
  | cons n ns ih =>
    cases i with
    | zero =>
      show 0 + n ≤ n + sumNat ns
      rw [Nat.zero_add]
      exact Nat.le_add_right n _
    | succ i =>
      show n + rowStart ns i + ns.getD i 0 ≤ n + sumNat ns
      exact Nat.add_assoc n _ _ ▸ Nat.add_le_add_left (ih i) n

/-- extents of the canonical layout: the key lemma behind every "fresh output" kernel
    (`take`, `filter`, `if_else`, `pa.array`). -/
theorem segs_canonical (ls : List (List α)) :
    segs (offsetsFrom 0 (ls.map List.length)) ls.flatten = ls := by
  simpa using (segs_offsetsFrom_splitBy _ 0 _).trans (splitBy_canonical ls [])

theorem monotone_le_last {offs : List Nat} {n : Nat} (hm : monotone offs = true)
    (hl : offs.getLast?.getD 0 ≤ n) : ∀ x ∈ offs, x ≤ n := by
  obtain rfl | ⟨b, ls, rfl⟩ := monotone_cases hm
  · simp
  · rw [offsetsFrom_last] at hl
    exact fun x hx => Nat.le_trans (mem_offsetsFrom hx).2 hl

theorem segs_lengths {offs : List Nat} {vals : List α} (hm : monotone offs = true)
    (hl : offs.getLast?.getD 0 ≤ vals.length) :
    (segs offs vals).map List.length = diffs offs := by
  obtain rfl | ⟨b, ls, rfl⟩ := monotone_cases hm
  · rfl
  · rw [offsetsFrom_last] at hl
    rw [diffs_offsetsFrom, segs_offsetsFrom_splitBy, splitBy_lengths (by rw [List.length_drop]; omega)]

theorem segs_flatten {offs : List Nat} {vals : List α} (hm : monotone offs = true)
    (hl : offs.getLast?.getD 0 ≤ vals.length) :
    (segs offs vals).flatten = (vals.drop (offs.headD 0)).take (offs.getLast?.getD 0 - offs.headD 0) := by
  obtain rfl | ⟨b, ls, rfl⟩ := monotone_cases hm
  · simp
  · rw [segs_offsetsFrom_splitBy, splitBy_flatten_take, offsetsFrom_last, offsetsFrom_head, Nat.add_sub_cancel_left]

theorem diffs_rebased {offs : List Nat} (hm : monotone offs = true) : diffs (rebased offs) = diffs offs := by
  obtain rfl | ⟨b, ls, rfl⟩ := monotone_cases hm
  · rfl
  · rw [rebased_offsetsFrom, diffs_offsetsFrom, diffs_offsetsFrom]

theorem rebased_eq_offsetsFrom {offs : List Nat} (hm : monotone offs = true) (hne : offs ≠ []) :
    rebased offs = offsetsFrom 0 (diffs offs) := by
  obtain rfl | ⟨b, ls, rfl⟩ := monotone_cases hm
  · exact absurd rfl hne
  · rw [rebased_offsetsFrom, diffs_offsetsFrom]

theorem rebased_head (offs : List Nat) : (rebased offs).headD 0 = 0 := by
  cases offs <;> simp [rebased]

theorem rebased_last {offs : List Nat} (hm : monotone offs = true) (hne : offs ≠ []) :
    (rebased offs).getLast?.getD 0 = sumNat (diffs offs) := by
  rw [rebased_eq_offsetsFrom hm hne, offsetsFrom_last, Nat.zero_add]

/-- the extents seen through re-based offsets over the windowed values
    (`_rebased_offsets` / `_windowed_values` in series/utils.py) are the original extents -/
theorem segs_rebased_window (l : PList α) (hm : monotone l.offs = true)
    (hl : l.offs.getLast?.getD 0 ≤ l.vals.length) :
    segs (rebased l.offs) l.windowVals = segs l.offs l.vals := by
  obtain ⟨offs, valid, vals⟩ := l
  obtain rfl | ⟨b, ls, rfl⟩ := monotone_cases hm
  · rfl
  · simp only [PList.windowVals, rebased_offsetsFrom, offsetsFrom_last, offsetsFrom_head, Nat.add_sub_cancel_left,
      segs_offsetsFrom_splitBy, List.drop_zero, splitBy_take (Nat.le_refl _)]

end NP
