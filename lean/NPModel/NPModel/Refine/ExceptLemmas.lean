/-
  Success of a `do`-block, of `forM` and of `mapM` in `Except`, each as ONE equivalence; `All2`.
  The simp set `exc` inverts `op … = .ok r` for an operation of the model written in `do`-notation.
-/
import NPModel.Refine.SimpSets

namespace NP

/-- pointwise relation between two lists of equal length (core Lean has no `Forall₂`) -/
inductive All2 {β γ : Type} (r : β → γ → Prop) : List β → List γ → Prop
  | nil : All2 r [] []
  | cons {a b as bs} : r a b → All2 r as bs → All2 r (a :: as) (b :: bs)

section
variable {ε β γ δ : Type}

namespace Except

@[exc] theorem pure_eq (a : β) : (pure a : Except ε β) = .ok a := rfl
@[exc] theorem throw_eq (e : ε) : (throw e : Except ε β) = .error e := rfl
@[exc] theorem ok_bind (a : β) (f : β → Except ε γ) : (Except.ok a >>= f) = f a := rfl
@[exc] theorem error_bind (e : ε) (f : β → Except ε γ) : (Except.error e >>= f) = .error e := rfl

@[exc] theorem bind_eq_ok {x : Except ε β} {f : β → Except ε γ} {c : γ} :
    (x >>= f) = .ok c ↔ ∃ b, x = .ok b ∧ f b = .ok c := by
  cases x <;> simp [exc]

@[exc] theorem map_eq_ok {x : Except ε β} {f : β → γ} {c : γ} : x.map f = .ok c ↔ ∃ b, x = .ok b ∧ f b = c := by
  cases x <;> simp [Except.map]

/-- `if p then throw e` in a `do`-block: the notation copies the rest of the block into both branches, so
    without this every guard doubles the term and the cases -/
@[exc] theorem guard_eq_ok {p : Prop} [Decidable p] {e : ε} {y : Except ε β} {b : β} :
    (if p then .error e else y) = .ok b ↔ ¬ p ∧ y = .ok b := by
  by_cases h : p <;> simp [h]

@[exc] theorem guard_else_eq_ok {p : Prop} [Decidable p] {e : ε} {y : Except ε β} {b : β} :
    (if p then y else .error e) = .ok b ↔ p ∧ y = .ok b := by
  by_cases h : p <;> simp [h]

attribute [exc] Except.ok.injEq

end Except

@[exc] theorem exists_unit {p : Unit → Prop} : (∃ u, p u) ↔ p () := ⟨fun ⟨(), h⟩ => h, fun h => ⟨(), h⟩⟩

/-- an early `return a` in a `do`-block: the block gives `a` or what the rest gives (a case split, so not in `exc`) -/
theorem ite_ok_eq_ok {p : Prop} [Decidable p] {a b : β} {y : Except ε β}
    (h : (if p then .ok a else y) = .ok b) : b = a ∨ y = .ok b := by
  split at h
  · exact .inl (Except.ok.inj h).symm
  · exact .inr h

theorem map_ite_eq {p : Prop} [Decidable p] {f : β → γ} {x y : Except ε β} {x' y' : Except ε γ}
    (h1 : p → x.map f = x') (h2 : ¬ p → y.map f = y') : (if p then x else y).map f = if p then x' else y' := by
  split
  · next h => exact h1 h
  · next h => exact h2 h

theorem forM_eq_ok {f : β → Except ε Unit} {l : List β} : l.forM f = .ok () ↔ ∀ x ∈ l, f x = .ok () := by
  induction l with
  | nil => simp [exc]
  | cons a l ih => simp [exc, ← ih]

theorem mapM_eq_ok {f : β → Except ε γ} {l : List β} {out : List γ} :
    l.mapM f = .ok out ↔ All2 (fun a c => f a = .ok c) l out := by
  induction l generalizing out with
  | nil => exact ⟨fun h => by cases h; exact .nil, fun h => by cases h; rfl⟩
  | cons a l ih =>
    simp only [List.mapM_cons, exc, ih]
    exact ⟨fun ⟨_, hc, _, hcs, e⟩ => e ▸ .cons hc hcs, fun h => by cases h with | cons hc hcs => exact ⟨_, hc, _, hcs, rfl⟩⟩

theorem All2.length_eq {r : β → γ → Prop} {l₁ : List β} {l₂ : List γ} (h : All2 r l₁ l₂) :
    l₁.length = l₂.length := by
  induction h with
  | nil => rfl
  | cons _ _ ih => simp [ih]

theorem All2.get {β γ : Type} {r : β → γ → Prop} {l₁ : List β} {l₂ : List γ} (h : All2 r l₁ l₂) :
    ∀ (i : Nat) (a : β) (b : γ), l₁[i]? = some a → l₂[i]? = some b → r a b := by
  induction h with
  | nil => intro i a b h1; cases h1
  | cons hr _ ih =>
    intro i a b h1 h2
    cases i with
    | zero => cases h1; cases h2; exact hr
    | succ i => exact ih i a b h1 h2

theorem All2.iff_getElem? {r : β → γ → Prop} {l₁ : List β} {l₂ : List γ} :
    All2 r l₁ l₂ ↔ l₁.length = l₂.length ∧ ∀ (i : Nat) a b, l₁[i]? = some a → l₂[i]? = some b → r a b := by
  refine ⟨fun h => ⟨h.length_eq, h.get⟩, ?_⟩
  rintro ⟨hl, h⟩
  induction l₁ generalizing l₂ with
  | nil =>
    cases l₂ with
    | nil => exact .nil
    | cons => cases hl
  | cons a l₁ ih =>
    cases l₂ with
    | nil => cases hl
    | cons b l₂ => exact .cons (h 0 a b rfl rfl) (ih (Nat.succ.inj hl) fun i => h (i + 1))

theorem All2.map_eq {r : β → γ → Prop} {l₁ : List β} {l₂ : List γ} (h : All2 r l₁ l₂)
    (g : γ → δ) (g' : β → δ) (hg : ∀ a b, r a b → g b = g' a) : l₂.map g = l₁.map g' := by
  induction h with
  | nil => rfl
  | cons hr _ ih => simp [hg _ _ hr, ih]

theorem All2.mono {r r' : β → γ → Prop} {l₁ : List β} {l₂ : List γ} (h : All2 r l₁ l₂)
    (hr : ∀ a b, a ∈ l₁ → b ∈ l₂ → r a b → r' a b) : All2 r' l₁ l₂ := by
  induction h with
  | nil => exact .nil
  | cons h0 _ ih =>
    exact .cons (hr _ _ List.mem_cons_self List.mem_cons_self h0)
      (ih fun a b ha hb => hr a b (List.mem_cons_of_mem _ ha) (List.mem_cons_of_mem _ hb))

theorem All2.mem_right {r : β → γ → Prop} {l₁ : List β} {l₂ : List γ} (h : All2 r l₁ l₂) :
    ∀ b ∈ l₂, ∃ a ∈ l₁, r a b := by
  induction h with
  | nil => intro b hb; cases hb
  | cons hab _ ih =>
    intro b hb
    rcases List.mem_cons.mp hb with rfl | hb
    · exact ⟨_, List.mem_cons_self, hab⟩
    · obtain ⟨a, ha, hr⟩ := ih b hb
      exact ⟨a, List.mem_cons_of_mem _ ha, hr⟩

theorem All2.of_forall_exists {r : β → γ → Prop} : ∀ {l : List β}, (∀ a ∈ l, ∃ b, r a b) → ∃ l', All2 r l l'
  | [], _ => ⟨[], .nil⟩
  | a :: _, h =>
    have ⟨b, hb⟩ := h a List.mem_cons_self
    have ⟨l', hl'⟩ := All2.of_forall_exists fun x hx => h x (List.mem_cons_of_mem _ hx)
    ⟨b :: l', .cons hb hl'⟩

theorem All2.zipWith_right {r : β → γ → Prop} {g : β → δ → γ} (h : ∀ a d, r a (g a d)) :
    ∀ (l : List β) (ds : List δ), ds.length = l.length → All2 r l (List.zipWith g l ds)
  | [], [], _ => .nil
  | a :: l, d :: ds, hl => .cons (h a d) (All2.zipWith_right h l ds (Nat.succ.inj hl))

theorem All2.map_right {f : β → γ} {r : β → γ → Prop} {l : List β} (h : ∀ x ∈ l, r x (f x)) :
    All2 r l (l.map f) := by
  induction l with
  | nil => exact .nil
  | cons a l ih => exact .cons (h a List.mem_cons_self) (ih fun x hx => h x (List.mem_cons_of_mem _ hx))

theorem mapM_ok_of_forall {f : β → Except ε γ} (g : β → γ) {l : List β}
    (h : ∀ x ∈ l, f x = .ok (g x)) : l.mapM f = .ok (l.map g) :=
  mapM_eq_ok.mpr (All2.map_right h)

theorem mapM_ok_flatMap (f : β → Except ε γ) (g : γ → List δ) (g' : β → List δ) (l : List β)
    (h : ∀ x ∈ l, ∃ y, f x = .ok y ∧ g y = g' x) : ∃ out, l.mapM f = .ok out ∧ out.flatMap g = l.flatMap g' :=
  have ⟨out, hall⟩ := All2.of_forall_exists h
  ⟨out, mapM_eq_ok.mpr (hall.mono fun _ _ _ _ h => h.1), by
    rw [List.flatMap_def, List.flatMap_def, hall.map_eq g g' fun _ _ h => h.2]⟩

end
end NP
