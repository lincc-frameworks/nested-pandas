/-
  `query` and `dropna` on a nested layer, end to end at the level of rows: the flat view with the
  ordinal index, a mask with one entry per record (the outcome of the condition, or `keepRecord`
  on the inspected cells), the filtered table, the packer and the alignment back to the frame.
-/
import NPModel.Refine.Repacked
import NPModel.Refine.FrameLemmas
namespace NP
variable {α : Type}

/-- the per-row lists of every field of a column, column-major (what `to_flat` flattens) -/
def colLists (c : PCol α) : List (String × String × List (List α)) :=
  (c.ty.map (·.1)).map fun f => (f, tyOf c f, Spec.fieldLists c.rows f)

theorem ordIndex_eq_listIndex (s : Nat) (lens : List Nat) :
    ordIndex s lens = (repeatEach (List.range' s lens.length) lens).map fun (i : Nat) => Label.int (i : Int) := by
  induction lens generalizing s with
  | nil => rfl
  | cons n ns ih =>
    rw [ordIndex, ih, List.length_cons, List.range'_succ, repeatEach_cons, List.map_append, List.map_replicate]

theorem colLists_lengths {c : PCol α} (h : c.Clean) : ∀ col ∈ colLists c, col.2.2.map List.length = c.rows.map Row.len := by
  refine List.forall_mem_map.mpr (List.forall_mem_map.mpr fun p hp => ?_)
  exact fieldLists_lengths h (List.any_eq_true.mpr ⟨p, hp, beq_self_eq_true _⟩)

/-- the flat view with the ordinal index, what query / dropna / sort_values start from -/
theorem ordinalFlat_refines {F : NFrame α} {nest : String} {c : PCol α} (hc : F.nest? nest = .ok c)
    (h : c.Clean) (hch : c.chunks ≠ []) (hidx : F.index.length = c.len) :
    F.ordinalFlat nest = .ok (ordFlat (colLists c) (c.rows.map Row.len)) := by
  unfold NFrame.ordinalFlat
  have hlen : (Spec.listIndex c.rows).length = (Spec.flatIndex F.index c.rows).length := by
    unfold Spec.listIndex Spec.flatIndex Spec.lens
    rw [repeatEach_length (by simp), repeatEach_length (by rw [List.length_map, PCol.rows_length, hidx])]
  simp only [hc, toFlat_refines F.index c h hch hidx, Spec.toFlat_none F.index c.abs h.fields, getListIndex_refines h,
    Except.ok_bind]
  simp only [PCol.abs, FlatDF.len, hlen, ne_eq, not_true_eq_false, if_false, Except.pure_eq]
  unfold ordFlat colLists
  rw [Except.ok.injEq, FlatDF.mk.injEq]
  constructor
  · rw [ordIndex_eq_listIndex]
    simp [Spec.listIndex, Spec.lens, List.range_eq_range']
  · simp only [List.map_map]
    rfl

theorem colLists_ne_nil {c : PCol α} (h : c.Clean) : colLists c ≠ [] := fun e =>
  h.fields (List.map_eq_nil_iff.mp (List.map_eq_nil_iff.mp e))

theorem rowLens_length {F : NFrame α} {c : PCol α} (hidx : F.index.length = c.len) :
    (c.rows.map Row.len).length = F.index.length := by
  rw [List.length_map, PCol.rows_length, hidx]

theorem ordFlat_has_field {c : PCol α} (lens : List Nat) {f : String} (hf : c.ty.any (·.1 == f) = true) :
    (ordFlat (colLists c) lens).cols.any (·.1 == f) = true := by
  obtain ⟨p, hp, hpe⟩ := List.any_eq_true.mp hf
  exact List.any_eq_true.mpr ⟨_, List.mem_map_of_mem (List.mem_map_of_mem (List.mem_map_of_mem hp)), hpe⟩

/-- **Filtering the flat view of a clean nested column by ANY per-record mask and re-packing**
    (the common body of `query` and `dropna` on a nested layer): with `masks` the mask cut into the
    rows' extents, row `i` keeps exactly its records whose mask is set. -/
theorem filterFlat_rows {F : NFrame α} (nest : String) {c : PCol α} (h : c.Clean) (hidx : F.index.length = c.len)
    {keep : List Bool} (hk : keep.length = sumNat (c.rows.map Row.len)) :
    let lens := c.rows.map Row.len
    let masks := Spec.splitBy lens keep
    ∃ col, F.setFilteredFlatDf nest ((ordFlat (colLists c) lens).filterRows keep) = .ok (F.setCol nest (.nest col)) ∧
      col.rows = repackedRows ((colLists c).map fun f => (f.1, f.2.1, filterRowsBy masks f.2.2))
        (masks.map fun m => (m.filter id).length) ∧
      col.rows.length = F.index.length := by
  intro lens masks
  have ⟨hflat, hlens⟩ := splitBy_flatten (lens := lens) hk
  obtain ⟨col, h1, hrest⟩ := filter_then_repack (lens := lens) (masks := masks) nest (rowLens_length hidx) (colLists_lengths h)
    (hlens ▸ All2.map_right fun _ _ => rfl) (colLists_ne_nil h)
  exact ⟨col, hflat ▸ h1, hrest⟩

theorem query_nested_rows {F : NFrame Cell} {e : Expr} {nest : String} {c : PCol Cell}
    (hl : e.layers = [some nest]) (hnc : F.nestedColumns.contains nest = true)
    (hc : F.nest? nest = .ok c) (h : c.Clean) (hch : c.chunks ≠ []) (hidx : F.index.length = c.len)
    {vals : List Cell}
    (hev : evalAll (ordFlat (colLists c) (c.rows.map Row.len)).len
      (recordLookup (ordFlat (colLists c) (c.rows.map Row.len)) nest) e = .ok vals) :
    let masks := Spec.splitBy (c.rows.map Row.len) (vals.map fun v => v == some (.bool true))
    ∃ col, F.query e = .ok (F.setCol nest (.nest col)) ∧
      col.rows = repackedRows ((colLists c).map fun c' => (c'.1, c'.2.1, filterRowsBy masks c'.2.2))
        (masks.map fun m => (m.filter id).length) ∧
      col.rows.length = F.index.length := by
  intro masks
  have hvl : (vals.map fun v => v == some (.bool true)).length = sumNat (c.rows.map Row.len) := by
    rw [List.length_map, ← (mapM_eq_ok.mp hev).length_eq, List.length_range]
    exact ordIndex_length 0 _
  obtain ⟨col, h1, hrest⟩ := filterFlat_rows nest h hidx hvl
  refine ⟨col, ?_, hrest⟩
  exact (NFrame.query_nest_eq_ok hl).mpr ⟨hnc, _, ordinalFlat_refines hc h hch hidx, _, hev, h1⟩

/-- the flat columns `dropna` inspects: all fields, or the fields named by `subset` -/
def inspectedCols (flat : FlatDF α) (subset : Option (List String)) : List (String × String × List α) :=
  match subset with
  | none => flat.cols
  | some fs => fs.map fun f => (flat.cols.find? (·.1 == f)).getD (f, "", [])

theorem dropnaCols_ok (flat : FlatDF α) (subset : Option (List String))
    (h : ∀ fs, subset = some fs → ∀ f ∈ fs, flat.cols.any (·.1 == f) = true) :
    dropnaCols flat subset = .ok (inspectedCols flat subset) := by
  unfold dropnaCols inspectedCols
  cases subset with
  | none => rfl
  | some fs =>
    refine mapM_ok_of_forall _ fun f hf => ?_
    obtain ⟨x, hx⟩ := Option.isSome_iff_exists.mp (List.find?_isSome.mpr (List.any_eq_true.mp (h fs rfl f hf)))
    rw [dropnaCol, hx]
    rfl

theorem dropnaKeep_length (isNull : α → Bool) (how : How) (thresh : Option Nat)
    (cols : List (String × String × List α)) (n : Nat) : (dropnaKeep isNull how thresh cols n).length = n := by
  simp [dropnaKeep]

/-- **`dropna` on a nested layer, end to end** (in words at `C12.dropna_nested_end_to_end`). -/
theorem dropnaNested_rows (isNull : α → Bool) (F : NFrame α) (nest : String) (c : PCol α)
    (hc : F.nest? nest = .ok c) (hclean : c.Clean) (hch : c.chunks ≠ []) (hidx : F.index.length = c.len)
    (how : How) (thresh : Option Nat) (subset : Option (List String))
    (hsub : ∀ fs, subset = some fs → ∀ f ∈ fs, c.ty.any (·.1 == f) = true) :
    let lens := c.rows.map Row.len
    let flat := ordFlat (colLists c) lens
    let keep := dropnaKeep isNull how thresh (inspectedCols flat subset) flat.len
    let masks := Spec.splitBy lens keep
    ∃ col, F.dropnaNested isNull nest how thresh subset = .ok (F.setCol nest (.nest col)) ∧
      col.rows = repackedRows ((colLists c).map fun f => (f.1, f.2.1, filterRowsBy masks f.2.2))
        (masks.map fun m => (m.filter id).length) ∧
      col.rows.length = F.index.length ∧ masks.flatten = keep ∧ masks.map List.length = lens := by
  intro lens flat keep masks
  have hcols := dropnaCols_ok (ordFlat (colLists c) (c.rows.map Row.len)) subset
    fun fs hfs f hf => ordFlat_has_field _ (hsub fs hfs f hf)
  have hkl : keep.length = sumNat lens := by
    rw [dropnaKeep_length]; exact ordIndex_length 0 lens
  obtain ⟨col, hcol, hrows, hlen⟩ := filterFlat_rows nest hclean hidx hkl
  refine ⟨col, ?_, hrows, hlen, splitBy_flatten hkl⟩
  unfold NFrame.dropnaNested
  simp only [ordinalFlat_refines hc hclean hch hidx, hcols, Except.ok_bind]
  exact hcol

end NP
