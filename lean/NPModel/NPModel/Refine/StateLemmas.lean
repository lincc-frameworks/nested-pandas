/-
  Lemmas about the two state models: the heap of NPModel.State.Heap (lookups after `setCell`/`setObj`, the
  allocator, `allocFor` = the common shape of the three allocating operations) and `call` of
  NPModel.State.Aliases on a frame whose alias attribute is clear.
-/
import NPModel.State.Heap
import NPModel.State.Aliases
namespace NP.State
variable {V : Type}

theorem find_setCell_other {cells : List (Nat × V)} {c c' : Nat} {v : V} (h : c' ≠ c) :
    (setCell cells c v).find? (·.1 == c') = cells.find? (·.1 == c') := by
  induction cells with
  | nil => rfl
  | cons p rest ih =>
    rw [setCell, List.map_cons, List.find?_cons, List.find?_cons, ← setCell, ih]
    by_cases hp : p.1 = c
    · rw [if_pos (beq_iff_eq.mpr hp), hp, beq_false_of_ne (Ne.symm h)]
    · rw [if_neg (mt beq_iff_eq.mp hp)]

theorem alloc_ids {n : Nat} {vals : List V} : ∀ p ∈ alloc n vals, n ≤ p.1 ∧ p.1 < n + vals.length := by
  induction vals generalizing n with
  | nil => intro p hp; cases hp
  | cons v vs ih =>
    intro p hp
    rcases List.mem_cons.mp hp with rfl | hp
    · exact ⟨Nat.le_refl _, by simp⟩
    · have := ih p hp
      simp only [List.length_cons]
      omega

theorem refs_setObj_other {objs : List (ObjId × List Nat)} {o o' : ObjId} {cs : List Nat} (h : o' ≠ o) :
    ((setObj objs o cs).find? (·.1 == o')) = objs.find? (·.1 == o') := by
  rw [setObj, List.find?_cons_of_neg (by simpa using Ne.symm h), List.find?_filter]
  congr 1
  funext p
  by_cases hp : p.1 = o' <;> simp [hp, h]

/-- the heap after allocating fresh cells for `vals` and pointing `o` at them: what `rebind`, `newObj` and
    `deepCopy` all do: `h.step` of each is an `allocFor` by `rfl` (used so in `Props/C15`) -/
def allocFor (h : Heap V) (o : ObjId) (vals : List V) : Heap V :=
  { cells := h.cells ++ alloc h.next vals, objs := setObj h.objs o ((alloc h.next vals).map (·.1)),
    next := h.next + vals.length }

theorem allocFor_refs_fresh {h : Heap V} {o : ObjId} {vals : List V} : ∀ c ∈ (allocFor h o vals).refs o, h.next ≤ c := by
  intro c hc
  have e : (allocFor h o vals).refs o = (alloc h.next vals).map (·.1) := by simp [allocFor, Heap.refs, setObj]
  obtain ⟨p, hp, rfl⟩ := List.mem_map.mp (e ▸ hc)
  exact (alloc_ids p hp).1

theorem allocFor_refs {h : Heap V} {o o' : ObjId} {vals : List V} (hne : o' ≠ o) :
    (allocFor h o vals).refs o' = h.refs o' := by
  unfold Heap.refs allocFor
  rw [refs_setObj_other hne]

theorem refs_lt {h : Heap V} (hw : h.WF) {o : ObjId} : ∀ c ∈ h.refs o, c < h.next := by
  intro c hc
  unfold Heap.refs at hc
  cases hf : h.objs.find? (·.1 == o) with
  | none => simp [hf] at hc
  | some p => exact hw.2 p (List.mem_of_find?_eq_some hf) c (by simpa [hf] using hc)

theorem allocFor_read {h : Heap V} {o : ObjId} {vals : List V} {c : Nat} (hc : c < h.next) :
    (allocFor h o vals).read c = h.read c := by
  unfold Heap.read allocFor
  rw [List.find?_append]
  cases h.cells.find? (·.1 == c) with
  | some p => rfl
  | none =>
    rw [Option.none_or, List.find?_eq_none.mpr]
    intro p hp hpc
    have := (alloc_ids p hp).1
    have e : p.1 = c := by simpa using hpc
    omega

theorem allocFor_observe {h : Heap V} (hw : h.WF) {o o' : ObjId} {vals : List V} (hne : o' ≠ o) :
    (allocFor h o vals).observe o' = h.observe o' := by
  unfold Heap.observe
  rw [allocFor_refs hne]
  exact List.map_congr_left fun c hc => allocFor_read (refs_lt hw c hc)

theorem allocFor_WF {h : Heap V} (hw : h.WF) {o : ObjId} {vals : List V} : (allocFor h o vals).WF := by
  constructor
  · intro p hp
    rcases List.mem_append.mp hp with hp | hp
    · exact Nat.lt_of_lt_of_le (hw.1 p hp) (Nat.le_add_right _ _)
    · exact (alloc_ids p hp).2
  · intro q hq c hc
    simp only [allocFor, setObj, List.mem_cons, List.mem_filter] at hq
    rcases hq with rfl | hq
    · obtain ⟨p, hp, rfl⟩ := List.mem_map.mp hc
      exact (alloc_ids p hp).2
    · exact Nat.lt_of_lt_of_le (hw.2 q hq.1 c hc) (Nat.le_add_right _ _)

variable {D R T : Type}

theorem call_of_clear {f : Frame D T} {op : Op D R T} (h : f.aliases = none) :
    call f op = match op.sem f.data (match op.kind with | .eval => some op.table | .plain => none) with
      | some (r, d') => (some r, { data := if op.inplace then d' else f.data, aliases := none })
      | none => (none, f) := by
  obtain ⟨d, a⟩ := f
  cases h
  unfold call
  cases op.kind <;> rfl

end NP.State
