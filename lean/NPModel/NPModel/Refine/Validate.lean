/-
  NPModel.Refine.Validate — the equal-lengths validator (series/utils.py) is sound.  It compares
  re-based offsets, so on well-formed storage whose null lists are empty what it accepts has the
  same per-row lengths under all fields (`aligned`, defined here), and aligned rows are rectangular.
  The converse holds on canonical storage (`PStruct.canonical_validate_iff` in `Aligned`).
-/
import NPModel.Refine.ExceptLemmas
import NPModel.Refine.Struct
namespace NP
variable {α : Type}

/-- all fields have the same per-row lengths, row by row (missing rows included) -/
def PStruct.aligned (s : PStruct α) : Prop :=
  ∀ k ∈ s.kids, ∀ k' ∈ s.kids, k.list.rows.map len0 = k'.list.rows.map len0

def PCol.aligned (c : PCol α) : Prop := ∀ s ∈ c.chunks, s.aligned

/-- the validator accepts a chunk exactly when all its fields have the same re-based offsets
    (the code compares every further field with the first) -/
theorem PStruct.validate_eq_ok {s : PStruct α} :
    s.validate = .ok () ↔ ∀ k ∈ s.kids, ∀ k' ∈ s.kids, rebased k.list.offs = rebased k'.list.offs := by
  unfold PStruct.validate
  cases s.kids with
  | nil => simp
  | cons k ks =>
    simp only [exc, List.all_eq_true, beq_iff_eq, and_true]
    refine ⟨fun h x hx y hy => ?_, fun h k' hk' => h k' (List.mem_cons_of_mem _ hk') k List.mem_cons_self⟩
    have hk : ∀ z ∈ k :: ks, rebased z.list.offs = rebased k.list.offs := List.forall_mem_cons.mpr ⟨rfl, h⟩
    rw [hk x hx, hk y hy]

theorem PStruct.validate_cases (s : PStruct α) : s.validate = .ok () ∨ s.validate = .error .valueError := by
  unfold PStruct.validate
  cases s.kids with
  | nil => exact Or.inl rfl
  | cons k ks =>
    simp only
    split
    · exact Or.inl rfl
    · exact Or.inr rfl

theorem PStruct.aligned_of_validate {s : PStruct α} (hw : s.WF = true) (hne : s.nullEmpty = true)
    (hv : s.validate = .ok ()) : s.aligned := by
  have hlens : ∀ k ∈ s.kids, k.list.rows.map len0 = diffs (rebased k.list.offs) := fun k hk => by
    have hwk := (PStruct.WF_iff.mp hw k hk).1
    rw [diffs_rebased (PList.WF_iff.mp hwk).2.1, PList.lens_eq_diffs hwk (List.all_eq_true.mp hne k hk)]
  intro k hk k' hk'
  rw [hlens k hk, hlens k' hk', PStruct.validate_eq_ok.mp hv k hk k' hk']

theorem PCol.validate_iff {c : PCol α} : c.validate = .ok () ↔ ∀ s ∈ c.chunks, s.validate = .ok () :=
  forM_eq_ok

theorem PCol.aligned_of_validate {c : PCol α} (hw : c.WF = true) (hne : ∀ s ∈ c.chunks, s.nullEmpty = true)
    (hv : c.validate = .ok ()) : c.aligned :=
  fun s hs => PStruct.aligned_of_validate (PCol.WF_iff.mp hw s hs).1 (hne s hs) (PCol.validate_iff.mp hv s hs)

theorem getD_map_len0 (rows : List (Option (List α))) (i : Nat) : (rows.map len0).getD i 0 = len0 (rows.getD i none) :=
  getD_map len0 rows i none

/-- aligned storage is rectangular in every row: the whole content of the validator's soundness -/
theorem PStruct.rect_of_aligned (s : PStruct α) (ha : s.aligned) (i : Nat) : Row.rect (s.rowAt i) = true := by
  unfold PStruct.rowAt
  split
  · cases hk : s.kids with
    | nil => rfl
    | cons k ks =>
      simp only [List.map_cons, Row.rect, Table.rect, List.all_map, List.all_eq_true, Function.comp, decide_eq_true_eq]
      intro k' hk'
      have := congrArg (·.getD i 0) (ha k' (hk ▸ List.mem_cons_of_mem _ hk') k (hk ▸ List.mem_cons_self))
      rw [getD_map_len0, getD_map_len0] at this
      exact this
  · rfl

theorem PStruct.validate_sound (s : PStruct α) (hw : s.WF = true) (hne : s.nullEmpty = true)
    (hv : s.validate = .ok ()) (i : Nat) (hi : i < s.len) : Row.rect (s.rowAt i) = true :=
  s.rect_of_aligned (aligned_of_validate hw hne hv) i

theorem PStruct.aligned_rect {s : PStruct α} (ha : s.aligned) : rectRows s.rows = true := by
  unfold rectRows PStruct.rows
  rw [List.all_map, List.all_eq_true]
  exact fun i _ => s.rect_of_aligned ha i

theorem PStruct.validate_rect {s : PStruct α} (hw : s.WF = true) (hne : s.nullEmpty = true)
    (hv : s.validate = .ok ()) : rectRows s.rows = true :=
  aligned_rect (aligned_of_validate hw hne hv)

theorem PCol.validate_single {ty : List (String × String)} {s : PStruct α} :
    PCol.validate ⟨ty, [s]⟩ = s.validate := by
  show (s.validate >>= fun _ => List.forM [] PStruct.validate) = _
  cases s.validate <;> rfl

theorem PCol.validate_rect (c : PCol α) (hw : c.WF = true) (hne : ∀ s ∈ c.chunks, s.nullEmpty = true)
    (hv : c.validate = .ok ()) : rectRows c.rows = true := by
  unfold rectRows PCol.rows
  rw [List.all_flatMap, List.all_eq_true]
  exact fun s hs => PStruct.validate_rect (PCol.WF_iff.mp hw s hs).1 (hne s hs) (PCol.validate_iff.mp hv s hs)

end NP
