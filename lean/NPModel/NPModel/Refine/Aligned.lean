/-
  NPModel.Refine.Aligned — completeness of the validator on fresh (canonical) outputs: from chunks whose
  fields have the same per-row lengths (null = 0; validated storage has this in every row, missing ones
  included) `take`, `filter` and `combine_chunks` produce storage the validator accepts.
-/
import NPModel.Refine.Select
namespace NP
variable {α : Type}

/-- every field's list array is a fresh one (`pa.array`, `take`, `if_else`, `concat_arrays` output) -/
def PStruct.canonical (s : PStruct α) : Prop := ∀ k ∈ s.kids, ∃ r, k.list = PList.ofRows r

theorem PStruct.canonical_validate_iff (s : PStruct α) (hc : s.canonical) : s.validate = .ok () ↔ s.aligned := by
  have hoffs : ∀ k ∈ s.kids, rebased k.list.offs = offsetsFrom 0 (k.list.rows.map len0) := by
    intro k hk
    obtain ⟨r, hr⟩ := hc k hk
    rw [hr, PList.ofRows_offs, rebased_offsetsFrom, PList.ofRows_rows]
  rw [PStruct.validate_eq_ok]
  constructor
  · intro hv k hk k' hk'
    have := congrArg diffs (hv k hk k' hk')
    rwa [hoffs k hk, hoffs k' hk', diffs_offsetsFrom, diffs_offsetsFrom] at this
  · intro ha k hk k' hk'
    rw [hoffs k hk, hoffs k' hk', ha k hk k' hk']

/-- the per-row lengths of a gathered list array depend only on the per-row lengths of the source -/
theorem gather_join_len0 (idx : List (Option Nat)) (rows : List (Option (List α))) :
    ((gather idx rows).map Option.join).map len0 = idx.map fun o => (o.bind fun j => (rows.map len0)[j]?).getD 0 := by
  simp only [gather, List.map_map]
  apply List.map_congr_left
  intro o _
  cases o with
  | none => rfl
  | some j =>
    simp only [Function.comp, Option.bind_some, List.getElem?_map]
    cases rows[j]? <;> rfl

theorem PStruct.take_aligned {s : PStruct α} (ha : s.aligned) (idx : List (Option Nat)) : (s.take idx).aligned := by
  simp only [PStruct.aligned, PStruct.take, List.mem_map, forall_exists_index, and_imp, forall_apply_eq_imp_iff₂,
    PList.take_rows]
  intro k hk k' hk'
  rw [gather_join_len0, gather_join_len0, ha k hk k' hk']

theorem PStruct.take_canonical (s : PStruct α) (idx : List (Option Nat)) : (s.take idx).canonical :=
  List.forall_mem_map.mpr fun _ _ => ⟨_, rfl⟩

theorem PStruct.take_validate {s : PStruct α} (ha : s.aligned) (idx : List (Option Nat)) :
    (s.take idx).validate = .ok () :=
  (PStruct.canonical_validate_iff _ (s.take_canonical idx)).mpr (take_aligned ha idx)

theorem PCol.combine_canonical (c : PCol α) : c.combine.canonical :=
  List.forall_mem_map.mpr fun _ _ => ⟨_, rfl⟩

theorem PCol.combine_aligned {c : PCol α} (hw : c.WF = true) (ha : c.aligned) : c.combine.aligned := by
  -- field `j` of the combined chunk reads as the concatenation, over the chunks, of their field `j`
  simp only [PStruct.aligned, PCol.combine, List.mem_map, List.mem_range, forall_exists_index, and_imp,
    forall_apply_eq_imp_iff₂, PList.ofRows_rows]
  intro j hj j' hj'
  rw [List.map_flatMap, List.map_flatMap]
  refine flatMap_congr fun s hs => ?_
  have hlen := PStruct.kids_length_of_ty (PCol.WF_iff.mp hw s hs).2
  rw [s.kidRows_of_get j (List.getElem?_eq_getElem (hlen ▸ hj)),
    s.kidRows_of_get j' (List.getElem?_eq_getElem (hlen ▸ hj'))]
  exact ha s hs _ (List.getElem_mem _) _ (List.getElem_mem _)

theorem PCol.take_validate (c : PCol α) (hw : c.WF = true) (ha : c.aligned) (idx : List (Option Nat)) :
    (c.take idx).validate = .ok () :=
  PCol.validate_single.trans (PStruct.take_validate (PCol.combine_aligned hw ha) idx)

end NP
