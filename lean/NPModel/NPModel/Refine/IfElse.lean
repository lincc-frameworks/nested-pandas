/-
  NPModel.Refine.IfElse — what `pc.if_else(mask, a, b)` on struct arrays, `pa.array(scalars)` and
  `replace_with_mask` (ext_array.py:167-180) show as rows, and when the validator accepts them:
  alignment is preserved by `if_else` and holds of `pa.array(scalars)` exactly for rectangular
  scalars.  Used by element assignment (C05) and by `take(..., allow_fill=True)`.
  Defines `unboxScalar`, `normRow` and `place`, in which C01, C02 and C05 are stated.
-/
import NPModel.Refine.Aligned
namespace NP
variable {α : Type}

theorem selectBy_length {β : Type} : ∀ {m : List Bool} {xs ys : List β},
    xs.length = m.length → ys.length = m.length → (selectBy m xs ys).length = m.length
  | [], _, _, _, _ => rfl
  | _ :: _, _ :: _, _ :: _, hx, hy => congrArg (· + 1) (selectBy_length (Nat.succ.inj hx) (Nat.succ.inj hy))

theorem selectBy_getD {β : Type} (d : β) {m : List Bool} : ∀ {xs ys : List β} {i : Nat},
    xs.length = m.length → ys.length = m.length → i < m.length →
    (selectBy m xs ys).getD i d = if m.getD i false then xs.getD i d else ys.getD i d := by
  induction m with
  | nil => intro _ _ _ _ _ hi; cases hi
  | cons b m ih =>
    intro xs ys i hx hy hi
    obtain ⟨x, xs, rfl⟩ := List.exists_cons_of_length_eq_add_one hx
    obtain ⟨y, ys, rfl⟩ := List.exists_cons_of_length_eq_add_one hy
    cases i with
    | zero => rfl
    | succ i => exact ih (Nat.succ.inj hx) (Nat.succ.inj hy) (Nat.lt_of_succ_lt_succ hi)

theorem selectBy_map {γ β : Type} (p : γ → Bool) (f g : γ → β) : ∀ (l : List γ),
    selectBy (l.map p) (l.map f) (l.map g) = l.map fun x => if p x then f x else g x
  | [] => rfl
  | _ :: l => congrArg (_ :: ·) (selectBy_map p f g l)

theorem selectBy_map_comm {β δ : Type} (h : β → δ) : ∀ (m : List Bool) (xs ys : List β),
    (selectBy m xs ys).map h = selectBy m (xs.map h) (ys.map h)
  | [], _, _ => rfl
  | _ :: _, [], _ => rfl
  | _ :: _, _ :: _, [] => rfl
  | b :: m, _ :: xs, _ :: ys => by cases b <;> exact congrArg (_ :: ·) (selectBy_map_comm h m xs ys)

/-- the side conditions of the `if_else` lemmas: the two chunks have equally many fields, the same names
    position by position, and `n` rows in every field -/
def PStruct.LinedUp (n : Nat) (a b : PStruct α) : Prop :=
  a.kids.length = b.kids.length ∧
  ∀ (j : Nat) (ka kb : PField α), a.kids[j]? = some ka → b.kids[j]? = some kb →
    ka.name = kb.name ∧ ka.list.rows.length = n ∧ kb.list.rows.length = n

/-- what `if_else` stores at row `i` (whether or not the row is marked missing) -/
theorem PStruct.ifElse_rowOfKids (mask : List Bool) (a b : PStruct α)
    (hk : a.kids.length = b.kids.length)
    (hn : ∀ (j : Nat) (ka kb : PField α), a.kids[j]? = some ka → b.kids[j]? = some kb →
      ka.name = kb.name ∧ ka.list.rows.length = mask.length ∧ kb.list.rows.length = mask.length)
    (i : Nat) (hi : i < mask.length) :
    rowOfKids (PStruct.ifElse mask a b).kids i =
      if mask.getD i false then rowOfKids a.kids i else rowOfKids b.kids i := by
  refine map_zipWith_side hk fun j ka kb h1 h2 => ?_
  have ⟨hname, h3, h4⟩ := hn j ka kb h1 h2
  simp only [PList.ofRows_rows, selectBy_getD none h3 h4 hi, hname]
  cases mask.getD i false <;> rfl

/-- **`if_else` row by row**: where the mask is set the row of `a`, elsewhere the row of `b`
    (field names are `b`'s; the two arrays have the same fields). -/
theorem PStruct.ifElse_rowAt {mask : List Bool} {a b : PStruct α}
    (hla : a.len = mask.length) (hlb : b.len = mask.length) (h : a.LinedUp mask.length b)
    {i : Nat} (hi : i < mask.length) :
    (PStruct.ifElse mask a b).rowAt i = if mask.getD i false then a.rowAt i else b.rowAt i := by
  rw [PStruct.rowAt_eq, PStruct.ifElse_rowOfKids mask a b h.1 h.2 i hi,
    show (PStruct.ifElse mask a b).valid = selectBy mask a.valid b.valid from rfl,
    selectBy_getD false hla hlb hi, PStruct.rowAt_eq, PStruct.rowAt_eq]
  cases mask.getD i false <;> rfl

theorem PStruct.ifElse_len {mask : List Bool} {a b : PStruct α}
    (hla : a.len = mask.length) (hlb : b.len = mask.length) : (PStruct.ifElse mask a b).len = mask.length := by
  unfold PStruct.ifElse PStruct.len
  exact selectBy_length hla hlb

/-- what a boxed struct scalar reads back as: a null struct is a missing row, a null list is an
    empty list; field names are the dtype's -/
def unboxScalar (ty : List (String × String)) (x : PScalar α) : Row α :=
  x.map fun fs => (List.range ty.length).map fun j => ((ty[j]?.getD ("", "")).1, ((fs[j]?).join).getD [])

/-- a row offered as a value, as the column's dtype sees it: the dtype's fields in dtype order, an
    absent field is an empty list (no rectangularity test — that is the validator's job) -/
def normRow (ty : List (String × String)) (r : Row α) : Row α :=
  r.map fun t => ty.map fun p => (p.1, ((t.find? (·.1 == p.1)).map (·.2)).getD [])

theorem unbox_box (ty : List (String × String)) (r : Row α) : unboxScalar ty (boxScalar ty r) = normRow ty r := by
  cases r with
  | none => rfl
  | some t =>
    simp only [unboxScalar, boxScalar, normRow, Option.map_some, Option.some.injEq]
    -- the dtype's fields read by position are the dtype's fields
    conv => rhs; rw [← map_range_getD _ ty ("", "")]
    refine List.map_congr_left fun j hj => ?_
    simp only [List.getD_eq_getElem?_getD, List.getElem?_map, List.getElem?_eq_getElem (List.mem_range.mp hj),
      Option.map_some, Option.getD_some, Option.join_some]

theorem PStruct.ofScalars_len (ty : List (String × String)) (xs : List (PScalar α)) :
    (PStruct.ofScalars ty xs).len = xs.length := by
  simp [PStruct.ofScalars, PStruct.len]

theorem PStruct.ofScalars_rowAt (ty : List (String × String)) {xs : List (PScalar α)} {i : Nat} (hi : i < xs.length) :
    (PStruct.ofScalars ty xs).rowAt i = unboxScalar ty (xs.getD i none) := by
  simp only [PStruct.rowAt, PStruct.ofScalars, unboxScalar, List.getD_eq_getElem?_getD, List.getElem?_map,
    List.getElem?_eq_getElem hi, Option.map_some, Option.getD_some, List.map_map, PList.ofRows_rows, Function.comp_def]
  cases xs[i] <;> rfl

theorem PStruct.ofScalars_rows (ty : List (String × String)) (xs : List (PScalar α)) :
    (PStruct.ofScalars ty xs).rows = xs.map (unboxScalar ty) := by
  unfold PStruct.rows
  rw [PStruct.ofScalars_len, ← map_range_getD (unboxScalar ty) xs none]
  exact List.map_congr_left fun i hi => PStruct.ofScalars_rowAt ty (List.mem_range.mp hi)

theorem PStruct.ifElse_rows (mask : List Bool) (a b : PStruct α)
    (hla : a.len = mask.length) (hlb : b.len = mask.length)
    (hk : a.kids.length = b.kids.length)
    (hn : ∀ (j : Nat) (ka kb : PField α), a.kids[j]? = some ka → b.kids[j]? = some kb →
      ka.name = kb.name ∧ ka.list.rows.length = mask.length ∧ kb.list.rows.length = mask.length) :
    (PStruct.ifElse mask a b).rows = selectBy mask a.rows b.rows := by
  unfold PStruct.rows
  rw [PStruct.ifElse_len hla hlb, hla, hlb, ← congrArg (selectBy · _ _) (range_getD_self mask false), selectBy_map]
  exact List.map_congr_left fun i hi => PStruct.ifElse_rowAt hla hlb ⟨hk, hn⟩ (List.mem_range.mp hi)

/-- the values `g 0, g 1, …` put at the set positions of the mask in order (starting with
    `g s`); the other positions keep what was there -/
def place {β : Type} (g : Nat → β) : Nat → List Bool → List β → List β
  | s, true :: m, _ :: old => g s :: place g (s + 1) m old
  | s, false :: m, o :: old => o :: place g s m old
  | _, _, _ => []

/-- the broadcast trick of `replace_with_mask`: index `cumsum(mask) - 1` (clamped at 0) into the
    values, then select by the mask — this places the values at the set positions in order -/
theorem selectBy_cumsum {β : Type} (g : Nat → β) : ∀ (m : List Bool) (s : Nat) (old : List β),
    old.length = m.length →
    selectBy m (((offsetsFrom s (m.map fun b => if b then 1 else 0)).drop 1).map fun c => g (c - 1)) old
      = place g s m old := by
  intro m
  induction m with
  | nil => intro _ old _; cases old <;> rfl
  | cons b m ih =>
    intro s old h
    obtain ⟨o, old, rfl⟩ := List.exists_cons_of_length_eq_add_one h
    simp only [List.map_cons, offsetsFrom_cons, List.drop_succ_cons, List.drop_zero]
    rw [offsetsFrom_eq_cons]
    cases b
    · exact congrArg (o :: ·) (ih s old (Nat.succ.inj h))
    · exact congrArg (g s :: ·) (ih (s + 1) old (Nat.succ.inj h))

/-- number of set positions before position `i` -/
def rankIn (m : List Bool) (i : Nat) : Nat := ((m.take i).filter id).length

theorem place_length {β : Type} (g : Nat → β) (s : Nat) {m : List Bool} {old : List β} (h : old.length = m.length) :
    (place g s m old).length = m.length := by
  rw [← selectBy_cumsum g m s old h]
  exact selectBy_length (by simp [offsetsFrom_length]) h

theorem place_getD {β : Type} (g : Nat → β) (d : β) : ∀ (s : Nat) (m : List Bool) (old : List β) (i : Nat),
    old.length = m.length → i < m.length →
    (place g s m old).getD i d = if m.getD i false then g (s + rankIn m i) else old.getD i d := by
  intro s m
  induction m generalizing s with
  | nil => intro _ _ _ hi; cases hi
  | cons b m ih =>
    intro old i h hi
    obtain ⟨o, old, rfl⟩ := List.exists_cons_of_length_eq_add_one h
    cases i with
    | zero => cases b <;> rfl
    | succ i =>
      have hm := Nat.succ.inj h
      have hi' := Nat.lt_of_succ_lt_succ hi
      cases b
      · exact ih s old i hm hi'
      · -- one more set position before `i + 1`
        have := ih (s + 1) old i hm hi'
        rwa [Nat.add_assoc, Nat.add_comm 1] at this

theorem PStruct.ifElse_canonical {mask : List Bool} {a b : PStruct α} : (PStruct.ifElse mask a b).canonical := by
  intro k hk
  obtain ⟨_, _, _, _, _, rfl⟩ := mem_zipWith_getElem hk
  exact ⟨_, rfl⟩

theorem PStruct.ifElse_ty (mask : List Bool) {a b : PStruct α} (hk : a.kids.length = b.kids.length) :
    (PStruct.ifElse mask a b).ty = b.ty :=
  map_zipWith_of_right (fun k : PField α => (k.name, k.ty)) hk fun _ _ _ _ _ => rfl

theorem PStruct.ifElse_kid_rows_length (mask : List Bool) {a b : PStruct α} (h : a.LinedUp mask.length b) :
    ∀ k ∈ (PStruct.ifElse mask a b).kids, k.list.rows.length = mask.length := by
  intro k hk
  obtain ⟨j, ka, kb, h1, h2, rfl⟩ := mem_zipWith_getElem hk
  have ⟨_, h3, h4⟩ := h.2 j ka kb h1 h2
  simp only [PList.ofRows_rows]
  exact selectBy_length h3 h4

/-- the index list `cumsum(mask) - 1` of `replace_with_mask` -/
def vidxOf (mask : List Bool) : List Nat :=
  ((offsetsFrom 0 (mask.map fun b => if b then 1 else 0)).drop 1).map fun c => c - 1

theorem vidxOf_length (mask : List Bool) : (vidxOf mask).length = mask.length := by
  simp [vidxOf, offsetsFrom_length]

theorem sumNat_mask (mask : List Bool) : sumNat (mask.map fun b => if b then 1 else 0) = (mask.filter id).length := by
  induction mask with
  | nil => rfl
  | cons b m ih =>
    rw [List.map_cons, sumNat_cons, ih]
    cases b
    · exact Nat.zero_add _
    · exact Nat.add_comm 1 _

theorem vidxOf_lt {mask : List Bool} (hpos : 0 < (mask.filter id).length) : ∀ x ∈ vidxOf mask, x < (mask.filter id).length := by
  intro x hx
  obtain ⟨c, hc, rfl⟩ := List.mem_map.mp hx
  have hle := (mem_offsetsFrom (List.mem_of_mem_drop hc)).2
  rw [sumNat_mask, Nat.zero_add] at hle
  exact Nat.lt_of_le_of_lt (Nat.sub_le_sub_right hle 1) (Nat.sub_lt hpos Nat.one_pos)

theorem vidxOf_last (mask : List Bool) (hne : mask ≠ []) : (mask.filter id).length - 1 ∈ vidxOf mask := by
  obtain ⟨b, m, rfl⟩ := List.exists_cons_of_ne_nil hne
  refine List.mem_map.mpr ⟨((b :: m).filter id).length, ?_, rfl⟩
  -- past the leading 0, the cumulative sums end in the total
  rw [← sumNat_mask, List.map_cons, offsetsFrom_cons, List.drop_succ_cons, List.drop_zero, sumNat_cons, Nat.zero_add]
  exact offsetsFrom_last_mem

/-- the bounds check of `replace_with_mask` fires exactly when the values are fewer than the set positions -/
theorem vidxOf_any_ge {mask : List Bool} (hpos : 0 < (mask.filter id).length) (n : Nat) :
    (vidxOf mask).any (fun i => decide (i ≥ n)) = decide (n < (mask.filter id).length) :=
  any_ge_eq (vidxOf_lt hpos) (vidxOf_last mask fun e => by rw [e] at hpos; exact Nat.lt_irrefl 0 hpos) n

/-- `pa.array(scalars)` of a dtype lines up with any chunk of the same dtype and length -/
theorem ofScalars_lineup {ty : List (String × String)} (xs : List (PScalar α)) {b : PStruct α} {n : Nat}
    (hx : xs.length = n) (hty : b.ty = ty) (hkr : ∀ k ∈ b.kids, k.list.rows.length = n) :
    (PStruct.ofScalars ty xs).LinedUp n b := by
  subst hty
  refine ⟨by simp only [PStruct.ofScalars, PStruct.ty, List.length_map, List.length_range], fun j ka kb hja hjb => ?_⟩
  have hjl : j < b.kids.length := (List.getElem?_eq_some_iff.mp hjb).1
  simp only [PStruct.ofScalars, PStruct.ty, List.length_map, List.getElem?_map, List.getElem?_range hjl, hjb,
    Option.map_some, Option.getD_some, Option.some.injEq] at hja
  subst hja
  exact ⟨rfl, by rw [PList.ofRows_rows, List.length_map, hx], hkr kb (List.mem_of_getElem? hjb)⟩

theorem rankIn_lt (m : List Bool) (i : Nat) (hi : i < m.length) (hm : m.getD i false = true) :
    rankIn m i < (m.filter id).length := by
  rw [List.getD_eq_getElem?_getD, List.getElem?_eq_getElem hi, Option.getD_some] at hm
  conv => rhs; rw [← List.take_append_drop i m, List.drop_eq_getElem_cons hi, hm]
  simp [rankIn]

theorem replaceWithMask_eq (arr : PStruct α) (mask : List Bool) (ty : List (String × String)) (value : List (PScalar α)) :
    replaceWithMask arr mask ty value =
      if (vidxOf mask).any (fun i => decide (i ≥ value.length)) then .error .indexError
      else .ok (PStruct.ifElse mask (PStruct.ofScalars ty ((vidxOf mask).map fun i => value.getD i none)) arr) := rfl

/-- **`replace_with_mask`**: IndexError exactly when there are fewer values than set positions;
    otherwise the values (read back through the dtype) stand at the set positions in order and
    every other row is unchanged.  `arr` is any chunk with the dtype's fields, in any layout. -/
theorem replaceWithMask_spec (arr : PStruct α) (mask : List Bool) (ty : List (String × String))
    (value : List (PScalar α)) (hl : arr.len = mask.length) (hty : arr.ty = ty)
    (hkr : ∀ k ∈ arr.kids, k.list.rows.length = mask.length) (hpos : 0 < (mask.filter id).length) :
    (value.length < (mask.filter id).length → replaceWithMask arr mask ty value = .error .indexError) ∧
    ((mask.filter id).length ≤ value.length →
      ∃ res, replaceWithMask arr mask ty value = .ok res ∧
        res = PStruct.ifElse mask (PStruct.ofScalars ty ((vidxOf mask).map fun i => value.getD i none)) arr ∧
        res.len = mask.length ∧
        (∀ k ∈ res.kids, ∃ r, k.list = PList.ofRows r) ∧ (∀ k ∈ res.kids, k.list.rows.length = mask.length) ∧
        res.ty = ty ∧
        res.rows = place (fun s => unboxScalar ty (value.getD s none)) 0 mask arr.rows) := by
  rw [replaceWithMask_eq, vidxOf_any_ge hpos]
  refine ⟨fun hlt => by rw [decide_eq_true hlt, if_pos rfl], fun hle => ?_⟩
  have hxl : ((vidxOf mask).map fun i => value.getD i none).length = mask.length := by
    rw [List.length_map, vidxOf_length]
  have hbl := (PStruct.ofScalars_len ty ((vidxOf mask).map fun i => value.getD i none)).trans hxl
  have hlu := ofScalars_lineup _ hxl hty hkr
  -- the conjuncts in the order of the statement; the rows come last
  refine ⟨_, by rw [decide_eq_false (Nat.not_lt.mpr hle), if_neg Bool.false_ne_true], rfl,
    PStruct.ifElse_len hbl hl,
    PStruct.ifElse_canonical,
    PStruct.ifElse_kid_rows_length mask hlu,
    (PStruct.ifElse_ty mask hlu.1).trans hty, ?_⟩
  rw [PStruct.ifElse_rows mask _ arr hbl hl hlu.1 hlu.2, PStruct.ofScalars_rows, List.map_map,
    ← selectBy_cumsum (fun s => unboxScalar ty (value.getD s none)) mask 0 arr.rows (by rw [PStruct.rows_length]; exact hl)]
  simp only [vidxOf, List.map_map]
  rfl

/-- the per-field lengths a chunk stores at row `i` -/
def lensAt (kids : List (PField α)) (i : Nat) : List Nat := kids.map fun k => len0 (k.list.rows.getD i none)

/-- all numbers of a list equal the first one (the shape of `Table.rect`) -/
def allEq : List Nat → Bool
  | [] => true
  | a :: rest => rest.all fun x => x = a

theorem allEq_iff {l : List Nat} : allEq l = true ↔ ∀ x ∈ l, ∀ y ∈ l, x = y := by
  cases l with
  | nil => simp [allEq]
  | cons a rest =>
    simp only [allEq, List.all_eq_true, decide_eq_true_eq, List.mem_cons]
    constructor
    · intro h x hx y hy
      have hx' : x = a := by rcases hx with rfl | hx; rfl; exact h x hx
      have hy' : y = a := by rcases hy with rfl | hy; rfl; exact h y hy
      rw [hx', hy']
    · intro h x hx
      exact h x (Or.inr hx) a (Or.inl rfl)

theorem Table.rect_eq_allEq (t : Table α) : Table.rect t = allEq (t.map (·.2.length)) := by
  cases t with
  | nil => rfl
  | cons p rest =>
    obtain ⟨n, l⟩ := p
    simp only [Table.rect, allEq, List.map_cons, List.all_map]
    rfl

theorem PStruct.aligned_iff_rows (s : PStruct α) (n : Nat) (hl : ∀ k ∈ s.kids, k.list.rows.length = n) :
    s.aligned ↔ ∀ i, i < n → allEq (lensAt s.kids i) = true := by
  refine ⟨fun ha i _ => ?_, fun h k hk k' hk' => ?_⟩
  -- no side condition needed in this direction: beyond a field's last row every field reads as empty
  · rw [allEq_iff]
    intro x hx y hy
    obtain ⟨k, hk, rfl⟩ := List.mem_map.mp hx
    obtain ⟨k', hk', rfl⟩ := List.mem_map.mp hy
    rw [← getD_map_len0, ← getD_map_len0, ha k hk k' hk']
  apply ext_getD 0 (by rw [List.length_map, List.length_map, hl k hk, hl k' hk'])
  intro i hi
  rw [List.length_map, hl k hk] at hi
  rw [getD_map_len0, getD_map_len0]
  exact allEq_iff.mp (h i hi) _ (List.mem_map.mpr ⟨k, hk, rfl⟩) _ (List.mem_map.mpr ⟨k', hk', rfl⟩)

/-- `if_else` of aligned chunks is aligned: no condition on lengths, names or field counts -/
theorem PStruct.ifElse_aligned (mask : List Bool) {a b : PStruct α} (ha : a.aligned) (hb : b.aligned) :
    (PStruct.ifElse mask a b).aligned := by
  intro k hk k' hk'
  obtain ⟨j, ka, kb, h1, h2, rfl⟩ := mem_zipWith_getElem hk
  obtain ⟨j', ka', kb', h1', h2', rfl⟩ := mem_zipWith_getElem hk'
  simp only [PList.ofRows_rows, selectBy_map_comm]
  rw [ha ka (List.mem_of_getElem? h1) ka' (List.mem_of_getElem? h1'),
    hb kb (List.mem_of_getElem? h2) kb' (List.mem_of_getElem? h2')]

theorem PStruct.ifElse_validate {mask : List Bool} {a b : PStruct α} (ha : a.aligned) (hb : b.aligned) :
    (PStruct.ifElse mask a b).validate = .ok () :=
  (PStruct.canonical_validate_iff _ PStruct.ifElse_canonical).mpr (PStruct.ifElse_aligned mask ha hb)

theorem PStruct.ofScalars_canonical (ty : List (String × String)) (xs : List (PScalar α)) :
    (PStruct.ofScalars ty xs).canonical :=
  List.forall_mem_map.mpr fun _ _ => ⟨_, rfl⟩

theorem PStruct.ofScalars_aligned {ty : List (String × String)} {xs : List (PScalar α)}
    (h : ∀ x ∈ xs, Row.rect (unboxScalar ty x) = true) : (PStruct.ofScalars ty xs).aligned := by
  intro k hk k' hk'
  simp only [PStruct.ofScalars, List.mem_map, List.mem_range] at hk hk'
  obtain ⟨j, hj, rfl⟩ := hk
  obtain ⟨j', hj', rfl⟩ := hk'
  simp only [PList.ofRows_rows, List.map_map]
  apply List.map_congr_left
  intro x hx
  cases x with
  | none => rfl
  | some fs =>
    have hr := h _ hx
    simp only [unboxScalar, Option.map_some, Row.rect, Table.rect_eq_allEq, List.map_map, allEq_iff] at hr
    exact hr _ (List.mem_map.mpr ⟨j, List.mem_range.mpr hj, rfl⟩) _ (List.mem_map.mpr ⟨j', List.mem_range.mpr hj', rfl⟩)

theorem PStruct.ofScalars_validate_iff (ty : List (String × String)) (xs : List (PScalar α)) :
    (PStruct.ofScalars ty xs).validate = .ok () ↔ ∀ x ∈ xs, Row.rect (unboxScalar ty x) = true := by
  rw [PStruct.canonical_validate_iff _ (PStruct.ofScalars_canonical ty xs)]
  refine ⟨fun ha => ?_, PStruct.ofScalars_aligned⟩
  have hr := PStruct.aligned_rect ha
  rwa [PStruct.ofScalars_rows, rectRows, List.all_map, List.all_eq_true] at hr

end NP
