/-
  NPModel.Refine.SetItem — element assignment (`NestedExtensionArray.__setitem__`): its last step
  (`replace_with_mask` on the combined storage, then validation) and the specification in normal
  form, from which assignment through a boolean mask refines assignment into the list of rows;
  and whatever `__setitem__` returns has rectangular rows (C01).
-/
import NPModel.Refine.IfElse
namespace NP
variable {α : Type}

theorem allEq_replicate (n a : Nat) : allEq (List.replicate n a) = true := by
  rw [allEq_iff]
  intro x hx y hy
  rw [List.eq_of_mem_replicate hx, List.eq_of_mem_replicate hy]

theorem place_all_imp {β : Type} {g : Nat → β} (P : β → Bool) : ∀ (s : Nat) (m : List Bool) (old : List β),
    old.length = m.length → (place g s m old).all P = true →
    (List.range' s (m.filter id).length).all (fun j => P (g j)) = true := by
  intro s m
  induction m generalizing s with
  | nil => intros; rfl
  | cons b m ih =>
    intro old h hp
    obtain ⟨o, old, rfl⟩ := List.exists_cons_of_length_eq_add_one h
    cases b <;> simp only [place, List.all_cons, Bool.and_eq_true] at hp
    · exact ih s old (Nat.succ.inj h) hp.2
    · simp only [List.filter_cons, id, if_true, List.length_cons, List.range'_succ, List.all_cons, hp.1, Bool.true_and]
      exact ih (s + 1) old (Nat.succ.inj h) hp.2

abbrev readBack (ty : List (String × String)) (vals : List (PScalar α)) (s : Nat) : Row α :=
  unboxScalar ty (vals.getD s none)

/-- **The last step of element assignment** (`replace_with_mask` on the combined storage, then the
    validated replacement): on validated storage in any layout, with a mask of the column's length
    and at least one set position,
    * fewer values than set positions: IndexError;
    * some value that would be used is ragged: ValueError (nothing is stored — the model returns
      no array);
    * otherwise the values stand at the set positions in order, every other row is unchanged. -/
theorem setItemFinish_spec (c : PCol α) (hw : c.WF = true) (ha : c.aligned) (mask : List Bool)
    (hl : mask.length = c.len) (hpos : 0 < (mask.filter id).length) (vals : List (PScalar α)) :
    (setItemFinish c mask vals).map PCol.rows =
      if vals.length < (mask.filter id).length then .error .indexError
      else if (List.range' 0 (mask.filter id).length).all (fun s => Row.rect (readBack c.ty vals s)) then
        .ok (place (readBack c.ty vals) 0 mask c.rows)
      else .error .valueError := by
  have hspec := replaceWithMask_spec c.combine mask c.ty vals (by rw [PCol.combine_len, hl]) (PCol.combine_ty c)
    (by intro k hk; rw [PCol.combine_kid_rows_length hw k hk, hl]) hpos
  unfold setItemFinish
  by_cases hlt : vals.length < (mask.filter id).length
  · rw [if_pos hlt, hspec.1 hlt]
    rfl
  · rw [if_neg hlt]
    obtain ⟨res, hres, hdef, hlen, hcan, hkr, hty, hrows⟩ := hspec.2 (Nat.le_of_not_lt hlt)
    rw [hres]
    simp only [exc]
    rw [PCol.combine_rows c hw] at hrows
    -- the validator accepts the result exactly when every value used reads back rectangular: if it
    -- accepts, the rows stored are rectangular, the placed values among them; conversely the result
    -- is `if_else` of aligned storage and of `pa.array` of rectangular scalars
    have hval : res.validate = .ok () ↔
        (List.range' 0 (mask.filter id).length).all (fun s => Row.rect (readBack c.ty vals s)) = true := by
      constructor
      · intro hv
        have hr := PStruct.aligned_rect ((PStruct.canonical_validate_iff res hcan).mp hv)
        rw [hrows] at hr
        exact place_all_imp Row.rect 0 mask c.rows (by rw [PCol.rows_length, hl]) hr
      · intro hall
        rw [hdef]
        refine PStruct.ifElse_validate (PStruct.ofScalars_aligned ?_) (PCol.combine_aligned hw ha)
        intro x hx
        obtain ⟨i, hi, rfl⟩ := List.mem_map.mp hx
        exact List.all_eq_true.mp hall i (List.mem_range'_1.mpr ⟨Nat.zero_le _, (Nat.zero_add _).symm ▸ vidxOf_lt hpos i hi⟩)
    rw [PCol.validate_single]
    by_cases hall : (List.range' 0 (mask.filter id).length).all (fun s => Row.rect (readBack c.ty vals s)) = true
    · rw [if_pos hall, hval.mpr hall]
      simp only [exc, Except.map, PCol.rows, List.flatMap_cons, List.flatMap_nil, List.append_nil, hrows]
    · rw [if_neg hall, (PStruct.validate_cases res).resolve_left fun h => hall (hval.mp h)]
      rfl

theorem conformRow_eq (ty : List (String × String)) (r : Row α) :
    Spec.conformRow ty r = if Row.rect (normRow ty r) then some (normRow ty r) else none := by
  cases r <;> rfl

theorem find_zip_eq {β : Type} (d : β) (i : Nat) (ps : List Nat) : ∀ (vs : List β), ps.length ≤ vs.length →
    ((List.zip ps vs).find? (·.1 == i)).map (·.2) = (ps.findIdx? (· == i)).map fun j => vs.getD j d := by
  induction ps with
  | nil => intros; rfl
  | cons p ps ih =>
    intro vs h
    obtain ⟨v, vs, rfl⟩ := List.exists_cons_of_length_pos (Nat.lt_of_lt_of_le (Nat.succ_pos _) h)
    rw [List.zip_cons_cons, List.find?_cons, List.findIdx?_cons]
    cases hp : p == i
    · rw [if_neg Bool.false_ne_true, Option.map_map]
      exact ih vs (Nat.le_of_succ_le_succ h)
    · rfl

/-- **`rows[ps] = vals` in normal form**: IndexError when the values do not suffice, ValueError when
    a value that would be used is ragged, otherwise row `i` becomes the value at the first
    occurrence of `i` among the positions (read through the dtype) and other rows are unchanged. -/
theorem assignVals_normal (ty : List (String × String)) (rows : List (Row α)) (ps : List Nat) (vals : List (Row α)) :
    Spec.assignVals ty rows ps vals =
      if vals.length < ps.length then .error .indexError
      else if (List.range' 0 ps.length).all (fun j => Row.rect (normRow ty (vals.getD j none))) then
        .ok ((List.range rows.length).map fun i =>
          ((ps.findIdx? (· == i)).map fun j => normRow ty (vals.getD j none)).getD (rows.getD i none))
      else .error .valueError := by
  unfold Spec.assignVals
  simp only [Except.pure_eq, Except.throw_eq, Except.error_bind]
  by_cases hlt : vals.length < ps.length
  · rw [if_pos hlt, if_pos hlt]
  have hle : ps.length ≤ vals.length := Nat.le_of_not_lt hlt
  -- a value is refused exactly when it is ragged once read through the dtype
  have hnone : ((vals.map (Spec.conformRow ty)).take ps.length).any Option.isNone =
      !(List.range' 0 ps.length).all (fun j => Row.rect (normRow ty (vals.getD j none))) := by
    rw [all_range'_getD none (fun r => Row.rect (normRow ty r)) hle, List.not_all_eq_any_not, ← List.map_take,
      List.any_map]
    exact congrArg (List.any _) (funext fun r => by rw [Function.comp, conformRow_eq]; cases Row.rect _ <;> rfl)
  rw [if_neg hlt, if_neg hlt, hnone]
  simp only [Bool.not_eq_true', Bool.eq_false_iff, ne_eq, ite_not]
  refine ite_congr rfl (fun hall => congrArg Except.ok (List.map_congr_left fun i _ => ?_)) fun _ => rfl
  have hm : ∀ o : Option (Nat × Row α), (match o with | some (_, r) => r | none => rows.getD i none) =
      (o.map (·.2)).getD (rows.getD i none) := fun o => by rcases o with _ | ⟨_, _⟩ <;> rfl
  refine (hm _).trans ?_
  rw [find_zip_eq none i ps _ (by rw [List.length_map, List.length_map]; exact hle), List.map_map]
  -- the pair found carries the value at the first index of `i`, which is among those checked
  refine congrArg (Option.getD · (rows.getD i none)) (Option.map_congr fun j hf => ?_)
  have hr : Row.rect (normRow ty (vals.getD j none)) = true := List.all_eq_true.mp hall j
    (List.mem_range'_1.mpr ⟨Nat.zero_le _, (Nat.zero_add _).symm ▸ (List.findIdx?_eq_some_iff_getElem.mp hf).1⟩)
  exact (getD_map (fun r => (Spec.conformRow ty r).getD none) vals j none).trans (by rw [conformRow_eq, if_pos hr]; rfl)

theorem nonzeroFrom_findIdx : ∀ (m : List Bool) (s i : Nat), i < m.length →
    (nonzeroFrom s m).findIdx? (· == s + i) = if m.getD i false then some (rankIn m i) else none := by
  intro m
  induction m with
  | nil => intro _ _ hi; cases hi
  | cons b m ih =>
    intro s i hi
    cases i with
    | zero =>
      cases b
      · -- every set position of the tail is beyond `s`
        exact List.findIdx?_eq_none_iff.mpr fun x hx => by have := nonzeroFrom_ge m (s + 1) x hx; simp; omega
      · simp [List.findIdx?_cons, rankIn]
    | succ i =>
      have h := ih (s + 1) i (Nat.lt_of_succ_lt_succ hi)
      rw [Nat.add_assoc, Nat.add_comm 1 i] at h
      cases b
      · exact h
      · rw [nonzeroFrom_true, List.findIdx?_cons, if_neg (by simp), h, List.getD_cons_succ]
        cases m.getD i false <;> rfl

/-- placing values at the set positions = assigning them to the positions `nonzero(mask)` -/
theorem place_eq_assign {β : Type} {g : Nat → β} (d : β) {m : List Bool} {rows : List β} (hl : rows.length = m.length) :
    place g 0 m rows = (List.range rows.length).map fun i =>
      (((nonzeroFrom 0 m).findIdx? (· == i)).map g).getD (rows.getD i d) := by
  rw [← range_getD_self (place g 0 m rows) d, place_length g 0 hl, hl]
  refine List.map_congr_left fun i hi => ?_
  have hf := nonzeroFrom_findIdx m 0 i (List.mem_range.mp hi)
  rw [Nat.zero_add] at hf
  rw [place_getD g d 0 m rows i hl (List.mem_range.mp hi), hf, Nat.zero_add]
  cases m.getD i false <;> rfl

theorem readBack_box (ty : List (String × String)) (vals : List (Row α)) :
    readBack ty (vals.map (boxScalar ty)) = fun s => normRow ty (vals.getD s none) :=
  funext fun s => (congrArg (unboxScalar ty) (getD_map (boxScalar ty) vals s none)).trans (unbox_box ty _)

/-- the last step of element assignment, on boxed rows, assigns the rows at the set positions in
    ascending order -/
theorem setItemFinish_refines {c : PCol α} (hw : c.WF = true) (ha : c.aligned) {mask : List Bool}
    (hl : mask.length = c.len) (hpos : 0 < (mask.filter id).length) (vals : List (Row α)) :
    (setItemFinish c mask (vals.map (boxScalar c.ty))).map PCol.rows
      = Spec.assignVals c.ty c.rows (nonzeroFrom 0 mask) vals := by
  rw [setItemFinish_spec c hw ha mask hl hpos, assignVals_normal, nonzeroFrom_length, readBack_box,
    place_eq_assign none (by rw [PCol.rows_length, hl]), List.length_map]

theorem any_id_iff_filter {m : List Bool} : m.any id = true ↔ 0 < (m.filter id).length := by
  rw [List.length_filter_pos_iff, List.any_eq_true]

theorem boxed_vals (ty : List (String × String)) (cnt : Nat) (v : SetVal α) :
    setItemVals ty cnt v = (Spec.setVals cnt v).map (boxScalar ty) := by
  cases v <;> simp [setItemVals, Spec.setVals]

theorem setItemApply_of_not_any {c : PCol α} {mask : List Bool} {argsort : Option (List Nat)} {v : SetVal α}
    (h : ¬ mask.any id = true) : setItemApply c mask argsort v = .ok c := by
  simp only [setItemApply, h, Except.pure_eq]
  split <;> rfl

/-- `setItemApply` against `Spec.assignAt`, for as many positions as the mask selects: the early
    exits (nothing selected) answer to an empty list of positions, the rest is reorder-and-finish -/
theorem setItemApply_refines {c : PCol α} {mask : List Bool} {argsort : Option (List Nat)} {ps : List Nat}
    {v : SetVal α} (hps : ps.length = (mask.filter id).length)
    (h : ps ≠ [] → ((setItemReorder argsort (setItemVals c.ty (mask.filter id).length v)) >>= fun vals =>
        setItemFinish c mask vals).map PCol.rows = Spec.assignVals c.ty c.rows ps (Spec.setVals ps.length v)) :
    (setItemApply c mask argsort v).map PCol.rows = Spec.assignAt c.ty c.rows ps v := by
  unfold Spec.assignAt
  by_cases hany : mask.any id = true
  · have hpos := any_id_iff_filter.mp hany
    have hne : ps ≠ [] := List.length_pos_iff.mp (hps ▸ hpos)
    have h0 : ¬ mask.length = 0 := fun h0 => by rw [List.length_eq_zero_iff.mp h0] at hany; cases hany
    rw [if_neg (mt List.isEmpty_iff.mp hne), ← h hne]
    simp only [setItemApply, h0, hany, not_true_eq_false, if_false, Except.pure_eq]
  · have hnil : ps = [] :=
      List.length_eq_zero_iff.mp (hps.trans (Nat.eq_zero_of_not_pos ((not_congr any_id_iff_filter).mp hany)))
    rw [setItemApply_of_not_any hany, hnil]
    rfl

theorem setItem_mask_refines {c : PCol α} (hw : c.WF = true) (ha : c.aligned) {m : List Bool} {v : SetVal α} :
    (NArr.setItem c (.mask m) v).map PCol.rows = Spec.setItem c.ty c.rows (.mask m) v := by
  unfold NArr.setItem Spec.setItem setItemMask Spec.keyPositions
  rw [PCol.rows_length]
  by_cases hlen : m.length = c.len
  · simp only [hlen, ne_eq, not_true_eq_false, if_false, Except.pure_eq, Except.ok_bind, Bool.false_eq_true]
    refine setItemApply_refines (nonzeroFrom_length m 0) fun hne => ?_
    have hpos : 0 < (m.filter id).length := nonzeroFrom_length m 0 ▸ List.length_pos_iff.mpr hne
    rw [setItemReorder, Except.pure_eq, Except.ok_bind, boxed_vals, setItemFinish_refines hw ha hlen hpos,
      nonzeroFrom_length]
  · simp only [hlen, ne_eq, not_false_eq_true, if_true]
    rfl

/-- what `setItemFinish` returns is one fresh chunk that has passed the validator -/
theorem setItemFinish_rect {c out : PCol α} {mask : List Bool} {vals : List (PScalar α)}
    (h : setItemFinish c mask vals = .ok out) : rectRows out.rows = true := by
  simp only [setItemFinish, replaceWithMask_eq, exc] at h
  obtain ⟨res, ⟨_, rfl⟩, hv, rfl⟩ := h
  rw [PCol.rows_single]
  exact PStruct.aligned_rect ((PStruct.canonical_validate_iff _ PStruct.ifElse_canonical).mp
    (PCol.validate_single.symm.trans hv))

theorem setItemApply_inv {c c' : PCol α} {mask : List Bool} {argsort : Option (List Nat)} {v : SetVal α}
    (h : setItemApply c mask argsort v = .ok c') : c' = c ∨ ∃ vals, setItemFinish c mask vals = .ok c' := by
  simp only [setItemApply, exc] at h
  rcases ite_ok_eq_ok h with e | h
  · exact .inl e
  rcases ite_ok_eq_ok h with e | h
  · exact .inl e
  obtain ⟨vals, _, hf⟩ := Except.bind_eq_ok.mp h
  exact .inr ⟨vals, hf⟩

end NP
