/-
  The packing algorithm of `pack_sorted_df_into_struct` on lists (offsets = first occurrences of
  each label, extents = `ListArray.from_arrays(offsets, values)`), by one induction over a label
  sequence in run-length form with pairwise distinct keys.  Sorted labels are in that form
  (`toRuns`), and a stable sort keeps the order inside every group.
  The end of the file filters lists row by row (`filterRowsBy`, `filterBy_flatten`, which `Repacked` uses as
  well) and gives the list-level statement C07 and C12 cite (`rowRuns`, `repack_filtered`, with `Nat`
  ordinals); the frame-level proofs build on `filter_then_repack` of `Repacked` instead.
-/
import NPModel.Refine.Masks
import NPModel.Refine.ExceptLemmas
namespace NP
variable {α β γ : Type}

/-- Run-length form of a labelled sequence: `(k, vs)` stands for `vs.length` consecutive records with
    label `k` and values `vs`.  `runLabels` and `runVals` spell the labels and the values out again;
    `nonemptyRuns` drops the runs without records (they leave no trace in the sequence). -/
def runLabels (runs : List (β × List α)) : List β := runs.flatMap fun r => List.replicate r.2.length r.1
def runVals (runs : List (β × List α)) : List α := runs.flatMap (·.2)
def nonemptyRuns (runs : List (β × List α)) : List (β × List α) := runs.filter fun r => !r.2.isEmpty

/-- values whose label is `k`, in order -/
def valsOfLabel [BEq β] (k : β) (labels : List β) (vals : List α) : List α :=
  ((labels.zip vals).filter fun p => p.1 == k).map (·.2)

theorem dupFirstGo_length [BEq β] (seen ls : List β) : (dupFirstGo seen ls).length = ls.length := by
  induction ls generalizing seen with
  | nil => rfl
  | cons l ls ih => rw [dupFirstGo, List.length_cons, ih, List.length_cons]

theorem packOffsets_keys [BEq β] {d : β} {labels : List β} :
    ((packOffsets labels).dropLast).map (fun o => labels.getD o d)
      = filterBy ((dupFirstGen labels).map (!·)) labels := by
  have := map_getD_nonzeroFrom d ((dupFirstGen labels).map (!·)) labels
    (by simp [dupFirstGen, dupFirstGo_length])
  simpa [packOffsets] using this

theorem dupFirstGo_congr [BEq β] (ls seen seen' : List β) (h : ∀ x ∈ ls, seen.contains x = seen'.contains x) :
    dupFirstGo seen ls = dupFirstGo seen' ls := by
  induction ls generalizing seen seen' with
  | nil => rfl
  | cons l ls ih =>
    rw [dupFirstGo, dupFirstGo, h l List.mem_cons_self, ih (l :: seen) (l :: seen') fun x hx => by
      rw [List.contains_cons, List.contains_cons, h x (List.mem_cons_of_mem _ hx)]]

theorem runLabels_cons (k : β) (l : List α) (rest : List (β × List α)) :
    runLabels ((k, l) :: rest) = List.replicate l.length k ++ runLabels rest := by
  simp [runLabels]

theorem runVals_cons (k : β) (l : List α) (rest : List (β × List α)) :
    runVals ((k, l) :: rest) = l ++ runVals rest := by
  simp [runVals]

theorem mem_runLabels {runs : List (β × List α)} {x : β} : x ∈ runLabels runs ↔ ∃ r ∈ runs, r.2 ≠ [] ∧ r.1 = x := by
  simp only [runLabels, List.mem_flatMap, List.mem_replicate, ne_eq, List.length_eq_zero_iff, eq_comm]

section
variable [BEq β] [LawfulBEq β]

theorem dupFirstGo_run (k : β) (n : Nat) (rest seen : List β) :
    dupFirstGo seen (List.replicate (n + 1) k ++ rest)
      = seen.contains k :: (List.replicate n true ++ dupFirstGo (k :: seen) rest) := by
  induction n generalizing seen with
  | zero => rfl
  | succ n ih =>
    rw [List.replicate_succ, List.cons_append, dupFirstGo, ih (k :: seen), List.contains_cons, beq_self_eq_true,
      Bool.true_or]
    -- `k` was seen already, so seeing it again changes nothing
    rw [dupFirstGo_congr rest (k :: k :: seen) (k :: seen) fun x _ => by
      rw [List.contains_cons, List.contains_cons, ← Bool.or_assoc, Bool.or_self]]
    rfl

/-- The packer's offsets are the cumulated lengths of the non-empty runs, and the first occurrences
    it reads its labels from are their keys. -/
theorem nonzero_runs {runs : List (β × List α)} (seen : List β) (b : Nat) (hd : (runs.map (·.1)).Pairwise (· ≠ ·))
    (hs : ∀ r ∈ runs, seen.contains r.1 = false) :
    nonzeroFrom b ((dupFirstGo seen (runLabels runs)).map (!·)) ++ [b + (runLabels runs).length]
      = offsetsFrom b ((nonemptyRuns runs).map (·.2.length)) ∧
    filterBy ((dupFirstGo seen (runLabels runs)).map (!·)) (runLabels runs) = (nonemptyRuns runs).map (·.1) := by
  induction runs generalizing seen b with
  | nil => exact ⟨rfl, rfl⟩
  | cons r rest ih =>
    obtain ⟨k, l⟩ := r
    have ⟨hk, hd'⟩ := List.pairwise_cons.mp hd
    have ⟨hsk, hs'⟩ := List.forall_mem_cons.mp hs
    rw [runLabels_cons]
    cases l with
    | nil => exact ih seen b hd' hs'
    | cons a l =>
      have ⟨ih1, ih2⟩ := ih (k :: seen) (b + 1 + l.length) hd' fun r' hr' => by
        rw [List.contains_cons, hs' r' hr', Bool.or_false]
        exact beq_eq_false_iff_ne.mpr (hk r'.1 (List.mem_map_of_mem hr')).symm
      rw [show nonemptyRuns ((k, a :: l) :: rest) = (k, a :: l) :: nonemptyRuns rest from rfl, List.length_cons,
        dupFirstGo_run k l.length (runLabels rest) seen, hsk]
      simp only [List.map_cons, Bool.not_false, List.map_append, List.map_replicate, Bool.not_true,
        nonzeroFrom_true, List.cons_append, offsetsFrom_cons, nonzeroFrom_replicate_false]
      constructor
      · rw [List.length_append, List.length_replicate, List.length_cons,
          show b + (l.length + 1 + (runLabels rest).length) = b + 1 + l.length + (runLabels rest).length by omega,
          ih1, Nat.add_assoc b 1, Nat.add_comm 1]
      · rw [List.replicate_succ, List.cons_append, filterBy_cons_true, filterBy_append (by simp),
          filterBy_replicate_false, List.nil_append, ih2]

theorem packOffsets_runs {runs : List (β × List α)} (hd : (runs.map (·.1)).Pairwise (· ≠ ·)) :
    packOffsets (runLabels runs) = offsetsFrom 0 ((nonemptyRuns runs).map (·.2.length)) := by
  have := (nonzero_runs [] 0 hd (by intro r _; rfl)).1
  simpa [packOffsets, dupFirstGen] using this

theorem firstKeys_runs {runs : List (β × List α)} (hd : (runs.map (·.1)).Pairwise (· ≠ ·)) :
    filterBy ((dupFirstGen (runLabels runs)).map (!·)) (runLabels runs) = (nonemptyRuns runs).map (·.1) :=
  (nonzero_runs [] 0 hd (by intro r _; rfl)).2

end

theorem runVals_nonempty (runs : List (β × List α)) : runVals runs = ((nonemptyRuns runs).map (·.2)).flatten := by
  rw [runVals, List.flatMap_def, ← List.flatten_filter_not_isEmpty, List.filter_map]
  rfl

/-- **Rows of the packed column**: the extents cut by the packer's offsets out of the run values
    are exactly the value lists of the non-empty runs, in order. -/
theorem packed_rows_are_runs [BEq β] [LawfulBEq β] (runs : List (β × List α))
    (hd : (runs.map (·.1)).Pairwise (· ≠ ·)) :
    segs (packOffsets (runLabels runs)) (runVals runs) = (nonemptyRuns runs).map (·.2) := by
  rw [packOffsets_runs hd, runVals_nonempty]
  have := segs_canonical ((nonemptyRuns runs).map (·.2))
  rwa [List.map_map] at this

/-- **Unique index of the packed column**: the labels found at the packer's offsets are the keys
    of the non-empty runs. -/
theorem packed_index_is_run_keys [BEq β] [LawfulBEq β] (d : β) (runs : List (β × List α))
    (hd : (runs.map (·.1)).Pairwise (· ≠ ·)) :
    ((packOffsets (runLabels runs)).dropLast).map (fun o => (runLabels runs).getD o d)
      = (nonemptyRuns runs).map (·.1) := by
  rw [packOffsets_keys, firstKeys_runs hd]

theorem valsOfLabel_map₂ [BEq β] (k : β) (l : List γ) (f : γ → β) (g : γ → α) :
    valsOfLabel k (l.map f) (l.map g) = (l.filter fun p => f p == k).map g := by
  unfold valsOfLabel
  rw [List.zip_map', List.filter_map, List.map_map]
  rfl

theorem valsOfLabel_append [BEq β] {k : β} {l₁ l₂ : List β} {v₁ v₂ : List α} (h : l₁.length = v₁.length) :
    valsOfLabel k (l₁ ++ l₂) (v₁ ++ v₂) = valsOfLabel k l₁ v₁ ++ valsOfLabel k l₂ v₂ := by
  unfold valsOfLabel
  rw [List.zip_append h, List.filter_append, List.map_append]

theorem valsOfLabel_eq_nil [BEq β] [LawfulBEq β] {k : β} {labels : List β} {vals : List α} (h : k ∉ labels) :
    valsOfLabel k labels vals = [] := by
  unfold valsOfLabel
  rw [List.map_eq_nil_iff, List.filter_eq_nil_iff]
  intro p hp he
  exact h ((beq_iff_eq.mp he) ▸ (List.of_mem_zip hp).1)

theorem valsOfLabel_replicate_self [BEq β] [LawfulBEq β] (k : β) (v : List α) :
    valsOfLabel k (List.replicate v.length k) v = v := by
  have := valsOfLabel_map₂ k v (fun _ => k) id
  rwa [List.map_const', List.filter_eq_self.mpr fun _ _ => beq_self_eq_true k, List.map_id] at this

theorem valsOfLabel_replicate_other [BEq β] [LawfulBEq β] {k k' : β} (hk : k' ≠ k) (v : List α) :
    valsOfLabel k (List.replicate v.length k') v = [] := by
  have := valsOfLabel_map₂ k v (fun _ => k') id
  rwa [List.map_const', List.filter_eq_nil_iff.mpr fun _ _ => by simpa using hk, List.map_id] at this

theorem runLabels_length (runs : List (β × List α)) : (runLabels runs).length = (runVals runs).length := by
  induction runs with
  | nil => rfl
  | cons r rest ih =>
    obtain ⟨k, l⟩ := r
    simp [runLabels_cons, runVals_cons, ih]

/-- **Every run is the subsequence of its label**: with pairwise distinct keys, the values
    carrying label `k` are exactly the values of `k`'s run. -/
theorem valsOfLabel_run [BEq β] [LawfulBEq β] (runs : List (β × List α)) (hd : (runs.map (·.1)).Pairwise (· ≠ ·))
    (k : β) (l : List α) (hm : (k, l) ∈ runs) :
    valsOfLabel k (runLabels runs) (runVals runs) = l := by
  induction runs with
  | nil => cases hm
  | cons r rest ih =>
    obtain ⟨k', l'⟩ := r
    have ⟨hk', hd'⟩ := List.pairwise_cons.mp hd
    rw [runLabels_cons, runVals_cons, valsOfLabel_append (by simp)]
    rcases List.mem_cons.mp hm with heq | hin
    · cases heq
      have habs : k ∉ runLabels rest := fun h => by
        obtain ⟨r, hr, _, he⟩ := mem_runLabels.mp h
        exact hk' r.1 (List.mem_map_of_mem hr) he.symm
      rw [valsOfLabel_replicate_self, valsOfLabel_eq_nil habs, List.append_nil]
    · rw [valsOfLabel_replicate_other (hk' k (List.mem_map_of_mem hin)), ih hd' hin, List.nil_append]

/-- **The packer groups by label** (run-length form, pairwise distinct keys): the extents cut by
    the packer's offsets are, label by label in order of first occurrence, the values carrying
    that label. -/
theorem segs_packOffsets_runs [BEq β] [LawfulBEq β] {runs : List (β × List α)}
    (hd : (runs.map (·.1)).Pairwise (· ≠ ·)) :
    segs (packOffsets (runLabels runs)) (runVals runs)
      = (filterBy ((dupFirstGen (runLabels runs)).map (!·)) (runLabels runs)).map fun k =>
          valsOfLabel k (runLabels runs) (runVals runs) := by
  rw [firstKeys_runs hd, packed_rows_are_runs _ hd, List.map_map]
  exact List.map_congr_left fun r hr => (valsOfLabel_run _ hd r.1 r.2 (List.mem_filter.mp hr).1).symm

section
variable [DecidableEq β]

/-- group adjacent equal labels -/
def toRuns : List (β × α) → List (β × List α)
  | [] => []
  | (k, v) :: rest =>
    match toRuns rest with
    | (k', vs) :: runs => if k = k' then (k, v :: vs) :: runs else (k, [v]) :: (k', vs) :: runs
    | [] => [(k, [v])]

theorem toRuns_cons (k : β) (v : α) (ps : List (β × α)) :
    (∃ vs runs, toRuns ps = (k, vs) :: runs ∧ toRuns ((k, v) :: ps) = (k, v :: vs) :: runs) ∨
    (toRuns ((k, v) :: ps) = (k, [v]) :: toRuns ps ∧ ∀ r ∈ (toRuns ps).head?, r.1 ≠ k) := by
  rw [toRuns]
  cases toRuns ps with
  | nil => exact Or.inr ⟨rfl, fun r hr => nomatch hr⟩
  | cons r runs =>
    obtain ⟨k', vs⟩ := r
    by_cases hk : k = k'
    · subst hk
      exact Or.inl ⟨vs, runs, rfl, if_pos rfl⟩
    · exact Or.inr ⟨if_neg hk, fun r hr => Option.some.inj hr ▸ fun e => hk e.symm⟩

theorem toRuns_labels_vals (ps : List (β × α)) :
    runLabels (toRuns ps) = ps.map (·.1) ∧ runVals (toRuns ps) = ps.map (·.2) := by
  induction ps with
  | nil => exact ⟨rfl, rfl⟩
  | cons p ps ih =>
    obtain ⟨k, v⟩ := p
    rcases toRuns_cons k v ps with ⟨vs, runs, h, e⟩ | ⟨e, _⟩
    · rw [h, runLabels_cons, runVals_cons] at ih
      rw [e, runLabels_cons, runVals_cons, List.map_cons, List.map_cons, ← ih.1, ← ih.2]
      exact ⟨rfl, rfl⟩
    · rw [e, runLabels_cons, runVals_cons, ih.1, ih.2]
      exact ⟨rfl, rfl⟩

theorem toRuns_nonempty (ps : List (β × α)) : ∀ r ∈ toRuns ps, r.2 ≠ [] := by
  induction ps with
  | nil => exact fun _ hr => nomatch hr
  | cons p ps ih =>
    obtain ⟨k, v⟩ := p
    rcases toRuns_cons k v ps with ⟨vs, runs, h, e⟩ | ⟨e, _⟩
    · rw [e]
      rw [h] at ih
      exact List.forall_mem_cons.mpr ⟨List.cons_ne_nil _ _, (List.forall_mem_cons.mp ih).2⟩
    · rw [e]
      exact List.forall_mem_cons.mpr ⟨List.cons_ne_nil _ _, ih⟩

theorem nonemptyRuns_toRuns (ps : List (β × α)) : nonemptyRuns (toRuns ps) = toRuns ps :=
  List.filter_eq_self.mpr fun r hr => by
    cases h : r.2 with
    | nil => exact absurd h (toRuns_nonempty ps r hr)
    | cons _ _ => rfl

theorem mem_toRuns_keys {ps : List (β × α)} {k : β} : k ∈ (toRuns ps).map (·.1) ↔ k ∈ ps.map (·.1) := by
  rw [← (toRuns_labels_vals ps).1, mem_runLabels, List.mem_map]
  exact ⟨fun ⟨r, hr, he⟩ => ⟨r, hr, toRuns_nonempty ps r hr, he⟩, fun ⟨r, hr, _, he⟩ => ⟨r, hr, he⟩⟩

/-- `Pairwise` relates all pairs, so transitivity plays no part. -/
theorem toRuns_keys_strict (le : β → β → Bool) (antisymm : ∀ a b, le a b → le b a → a = b)
    {ps : List (β × α)} (hs : (ps.map (·.1)).Pairwise (fun a b => le a b = true)) :
    ((toRuns ps).map (·.1)).Pairwise (fun a b => le a b = true ∧ a ≠ b) := by
  induction ps with
  | nil => simp [toRuns]
  | cons p ps ih =>
    obtain ⟨k, v⟩ := p
    have ih' := ih (List.pairwise_cons.mp hs).2
    have hle : ∀ x ∈ (toRuns ps).map (·.1), le k x = true := fun x hx =>
      (List.pairwise_cons.mp hs).1 x (mem_toRuns_keys.mp hx)
    rcases toRuns_cons k v ps with ⟨vs, runs, h, e⟩ | ⟨e, hhead⟩
    · rw [e]
      rw [h] at ih'
      exact ih'
    · rw [e, List.map_cons, List.pairwise_cons]
      refine ⟨fun x hx => ⟨hle x hx, ?_⟩, ih'⟩
      -- `k` would be the key of a later run, not of the first: the first key lies between two `k`s
      rintro rfl
      cases hruns : toRuns ps with
      | nil =>
        rw [hruns] at hx
        cases hx
      | cons r runs =>
        rw [hruns] at ih' hx hle hhead
        refine hhead r rfl ((List.mem_cons.mp hx).elim Eq.symm fun hx1 => ?_)
        exact antisymm _ _ ((List.pairwise_cons.mp ih').1 k hx1).1 (hle r.1 List.mem_cons_self)

/-- **Sorted labels are in run-length form with pairwise distinct keys** (for any transitive,
    antisymmetric comparison; transitivity is asked for and not used: `toRuns_keys_strict`). -/
theorem toRuns_keys_distinct (le : β → β → Bool)
    (trans : ∀ a b c, le a b → le b c → le a c) (antisymm : ∀ a b, le a b → le b a → a = b)
    (ps : List (β × α)) (hs : (ps.map (·.1)).Pairwise (fun a b => le a b = true)) :
    ((toRuns ps).map (·.1)).Pairwise (fun a b => le a b = true ∧ a ≠ b) :=
  toRuns_keys_strict le antisymm hs

/-- **The packer groups a sorted table by label**: sortedness gives the run-length form, so no
    caller has to exhibit runs. -/
theorem segs_packOffsets_sorted (le : β → β → Bool) (antisymm : ∀ a b, le a b → le b a → a = b)
    {labels : List β} {vals : List α} (hl : labels.length = vals.length)
    (hs : labels.Pairwise (fun a b => le a b = true)) :
    segs (packOffsets labels) vals
      = (filterBy ((dupFirstGen labels).map (!·)) labels).map fun k => valsOfLabel k labels vals := by
  have e1 : (labels.zip vals).map (·.1) = labels := List.map_fst_zip (by omega)
  have e2 : (labels.zip vals).map (·.2) = vals := List.map_snd_zip (by omega)
  have hd : ((toRuns (labels.zip vals)).map (·.1)).Pairwise (· ≠ ·) :=
    (toRuns_keys_strict le antisymm (by rw [e1]; exact hs)).imp fun h => h.2
  have := segs_packOffsets_runs hd
  rwa [(toRuns_labels_vals _).1, (toRuns_labels_vals _).2, e1, e2] at this

theorem packed_row_of_sorted (le : β → β → Bool) (antisymm : ∀ a b, le a b → le b a → a = b)
    (ps : List (β × α)) (hs : (ps.map (·.1)).Pairwise (fun a b => le a b = true)) {k : β} {l : List α}
    (hm : (k, l) ∈ toRuns ps) :
    valsOfLabel k (ps.map (·.1)) (ps.map (·.2)) = l ∧
    segs (packOffsets (ps.map (·.1))) (ps.map (·.2)) = (nonemptyRuns (toRuns ps)).map (·.2) ∧
    ((packOffsets (ps.map (·.1))).dropLast).map (fun o => (ps.map (·.1)).getD o k) = (nonemptyRuns (toRuns ps)).map (·.1) := by
  have hd : ((toRuns ps).map (·.1)).Pairwise (· ≠ ·) :=
    List.Pairwise.imp (fun h => h.2) (toRuns_keys_strict le antisymm hs)
  have ⟨e1, e2⟩ := toRuns_labels_vals ps
  refine ⟨?_, ?_, ?_⟩
  · rw [← e1, ← e2]; exact valsOfLabel_run _ hd k l hm
  · rw [← e1, ← e2]; exact packed_rows_are_runs _ hd
  · rw [← e1]; exact packed_index_is_run_keys k _ hd

end

/-- **Records stay in their rows and move as a whole.**  Reordering the flat table by ANY
    permutation of its positions (the same permutation for the ordinal index and for every
    field — `g p` is the whole record at position `p`) leaves, for every row ordinal `k`, a
    permutation of the records that carried `k` before: none lost, none duplicated, none moved to
    another row. -/
theorem reorder_keeps_records_in_rows [BEq β] (perm : List Nat) (N : Nat) (hp : perm.Perm (List.range N))
    (f : Nat → β) (g : Nat → α) (k : β) :
    (valsOfLabel k (perm.map f) (perm.map g)).Perm (valsOfLabel k ((List.range N).map f) ((List.range N).map g)) := by
  rw [valsOfLabel_map₂, valsOfLabel_map₂]
  exact (hp.filter _).map g

/-- A stable sort leaves unchanged any sub-sequence that is sorted already: core's stability lemma
    keeps it as a sublist, of the same length since sorting permutes. -/
theorem filter_mergeSort (le : γ → γ → Bool) (trans : ∀ a b c, le a b → le b c → le a c)
    (total : ∀ a b, le a b || le b a) (p : γ → Bool) (xs : List γ)
    (hp : (xs.filter p).Pairwise (fun a b => le a b = true)) :
    (xs.mergeSort le).filter p = xs.filter p := by
  have hsub := (List.sublist_mergeSort trans total hp List.filter_sublist).filter p
  simp only [List.filter_filter, Bool.and_self] at hsub
  exact (hsub.eq_of_length ((List.mergeSort_perm xs le).filter p).length_eq.symm).symm

/-- stable sort by key (`df.sort_index(kind="stable")`): the subsequence of every key is unchanged -/
theorem filter_mergeSort_key [BEq β] [LawfulBEq β] (le : β → β → Bool)
    (trans : ∀ a b c, le a b → le b c → le a c) (total : ∀ a b, le a b || le b a)
    (xs : List (β × α)) (k : β) :
    (xs.mergeSort fun a b => le a.1 b.1).filter (fun p => p.1 == k) = xs.filter (fun p => p.1 == k) := by
  apply filter_mergeSort (fun (a b : β × α) => le a.1 b.1) (fun a b c => trans a.1 b.1 c.1) (fun a b => total a.1 b.1)
  exact List.pairwise_of_forall_mem_list fun a ha b hb => by
    rw [beq_iff_eq.mp (List.mem_filter.mp ha).2, beq_iff_eq.mp (List.mem_filter.mp hb).2]
    simpa using total k k

theorem repeatEach_runs (runs : List (β × List α)) :
    repeatEach (runs.map (·.1)) (runs.map (·.2.length)) = runLabels runs := by
  induction runs with
  | nil => rfl
  | cons r rest ih => rw [runLabels_cons, ← ih]; rfl

theorem runLabels_zip {ks : List β} {ls : List (List α)} (h : ks.length = ls.length) :
    runLabels (ks.zip ls) = repeatEach ks (ls.map List.length) := by
  rw [← repeatEach_runs, List.map_fst_zip (Nat.le_of_eq h)]
  exact congrArg (repeatEach ks) (((List.map_map ..).symm.trans (congrArg _ (List.map_snd_zip (Nat.le_of_eq h.symm)))))

theorem runVals_zip {ks : List β} {ls : List (List α)} (h : ks.length = ls.length) :
    runVals (ks.zip ls) = ls.flatten := by
  rw [runVals, List.flatMap_def, List.map_snd_zip (Nat.le_of_eq h.symm)]

def filterRowsBy (masks : List (List Bool)) (lists : List (List α)) : List (List α) :=
  List.zipWith filterBy masks lists

theorem filterBy_flatten {masks : List (List Bool)} {lists : List (List α)}
    (h : All2 (fun m l => m.length = l.length) masks lists) :
    filterBy masks.flatten lists.flatten = (filterRowsBy masks lists).flatten := by
  induction h with
  | nil => rfl
  | cons h _ ih =>
    rw [List.flatten_cons, List.flatten_cons, filterBy_append h, ih, filterRowsBy, filterRowsBy,
      List.zipWith_cons_cons, List.flatten_cons]

theorem filterBy_repeatEach {masks : List (List Bool)} {lists : List (List α)}
    (h : All2 (fun m l => m.length = l.length) masks lists) {ks : List β} :
    filterBy masks.flatten (repeatEach ks (lists.map List.length))
      = repeatEach ks ((filterRowsBy masks lists).map List.length) := by
  induction h generalizing ks with
  | nil => cases ks <;> rfl
  | @cons m l _ _ hml _ ih =>
    cases ks with
    | nil => exact filterBy_nil_right _
    | cons k ks =>
      rw [List.flatten_cons, List.map_cons, repeatEach_cons, filterBy_append (by rw [List.length_replicate, hml]),
        ih, ← hml, filterBy_replicate, ← filterBy_length hml]
      rfl

/-- row `i` (ordinal `s + i`) with the records its mask keeps -/
def rowRuns (s : Nat) : List (List Bool) → List (List α) → List (Nat × List α)
  | m :: ms, l :: ls => (s, filterBy m l) :: rowRuns (s + 1) ms ls
  | _, _ => []

theorem rowRuns_eq_zip : ∀ (s : Nat) (masks : List (List Bool)) (lists : List (List α)),
    rowRuns s masks lists = (List.range' s (filterRowsBy masks lists).length).zip (filterRowsBy masks lists)
  | _, [], _ => by simp [rowRuns, filterRowsBy]
  | _, _ :: _, [] => by simp [rowRuns, filterRowsBy]
  | s, m :: ms, l :: ls => by
    rw [rowRuns, rowRuns_eq_zip (s + 1) ms ls]
    rfl

/-- **The re-packed column.**  After filtering the flat view of a field with any per-record mask
    and re-packing it by the ordinal index:
    * the packed rows are exactly the non-empty filtered rows, in row order;
    * the packed unique index holds exactly the ordinals of the rows that keep a record
      (every other row is absent, hence becomes missing when the packed column is aligned);
    * for every row `i`, the records carrying ordinal `i` in the filtered table are the records
      of row `i` that the mask keeps, in their original order. -/
theorem repack_filtered (masks : List (List Bool)) (lists : List (List α))
    (h : All2 (fun m l => m.length = l.length) masks lists) :
    let keep := masks.flatten
    let ords := repeatEach (List.range lists.length) (lists.map List.length)
    let ords' := filterBy keep ords
    let flat' := filterBy keep lists.flatten
    segs (packOffsets ords') flat' = (nonemptyRuns (rowRuns 0 masks lists)).map (·.2) ∧
    ((packOffsets ords').dropLast).map (fun o => ords'.getD o 0) = (nonemptyRuns (rowRuns 0 masks lists)).map (·.1) ∧
    ∀ i m l, masks[i]? = some m → lists[i]? = some l → valsOfLabel i ords' flat' = filterBy m l := by
  intro keep ords ords' flat'
  have hlen : (List.range lists.length).length = (filterRowsBy masks lists).length := by
    rw [List.length_range, filterRowsBy, List.length_zipWith, h.length_eq, Nat.min_self]
  have hruns : rowRuns 0 masks lists = (List.range lists.length).zip (filterRowsBy masks lists) := by
    rw [rowRuns_eq_zip, ← hlen, List.length_range, List.range_eq_range']
  have hd : ((rowRuns 0 masks lists).map (·.1)).Pairwise (· ≠ ·) := by
    rw [hruns, List.map_fst_zip (Nat.le_of_eq hlen)]
    exact List.Pairwise.imp Nat.ne_of_lt List.pairwise_lt_range
  have e1 : ords' = runLabels (rowRuns 0 masks lists) := by
    rw [hruns, runLabels_zip hlen]
    exact filterBy_repeatEach h
  have e2 : flat' = runVals (rowRuns 0 masks lists) := by
    rw [hruns, runVals_zip hlen]
    exact filterBy_flatten h
  refine ⟨?_, ?_, ?_⟩
  · rw [e1, e2]; exact packed_rows_are_runs _ hd
  · rw [e1]; exact packed_index_is_run_keys 0 _ hd
  · intro i m l hm hl
    rw [e1, e2]
    refine valsOfLabel_run _ hd i _ (hruns ▸ List.mem_iff_getElem?.mpr ⟨i, List.getElem?_zip_eq_some.mpr ⟨?_, ?_⟩⟩)
    · exact List.getElem?_range (List.getElem?_eq_some_iff.mp hl).1
    · exact List.getElem?_zipWith_eq_some.mpr ⟨m, l, hm, hl, rfl⟩

end NP
