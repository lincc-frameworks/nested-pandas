/-
  `pack_flat`, `add_nested` and `from_flat` end to end on the implementation model.  `pack_flat` is
  the stable sort followed by the packer (`packSortedDf_groups`); a join looks the plan's labels up
  in the packed column (`take_by_label`), whatever its `how`.
  Defines `NFrame.Consistent` (what a join needs of a frame), `packedRow` and `innerKept`.
-/
import NPModel.Refine.Repacked
namespace NP
variable {α : Type}

/-- the nested row a label gets: for every flat column, its cells at the label's records -/
def packedRow [Inhabited α] (df : FlatDF α) (l : Label) : Row α :=
  some (df.cols.map fun c => (c.1, (recordsOf df.index l).map fun j => c.2.2.getD j default))

theorem reorder_cols [Inhabited α] (df : FlatDF α) :
    (df.reorder (stableSortPerm df.index) default).cols =
      df.cols.map fun c => (c.1, c.2.1, ((sortedByLabel df.index.zipIdx).map (·.2)).map fun i => c.2.2.getD i default) :=
  rfl

/-- **`pack_flat` end to end.**  For ANY flat table with at least one column (any labels in any
    order, repeated or not): the call succeeds; the packed index lists the distinct labels of the
    table (ascending, each once — `packedKeys_strict`, `mem_packedKeys`); the packed column is
    well formed, aligned, has the table's columns as its fields, and the row of label `k` holds,
    for every field at once, the cells of the records that carried `k`, in their original
    order. -/
theorem packFlat_spec [Inhabited α] (df : FlatDF α) (hne : df.cols ≠ []) :
    ∃ packed, packFlat df = .ok packed ∧ packed.index = packedKeys df.index ∧
      packed.col.WF = true ∧ packed.col.aligned ∧
      packed.col.ty = df.cols.map (fun c => (c.1, c.2.1)) ∧
      packed.col.rows = (packedKeys df.index).map (packedRow df) ∧
      packed.col.Clean ∧ packed.col.chunks ≠ [] := by
  let df' := df.reorder (stableSortPerm df.index) default
  have hidx : df'.index = (sortedByLabel df.index.zipIdx).map (·.1) := reorder_index df.index
  obtain ⟨packed, hok, hindex, hclean, hch, hty, hrows⟩ := packSortedDf_groups df'
    (by rw [hidx]; exact isMonotone_iff_pairwise.mpr (sortedByLabel_sorted _))
    (List.forall_mem_map.mpr fun _ _ => (List.length_map _).trans (List.length_map _).symm)
    (fun h => hne (List.map_eq_nil_iff.mp h))
  rw [hidx, firstLabels_sorted] at hindex hrows
  refine ⟨packed, hok, hindex, hclean.wf, hclean.aligned, ?_, ?_, hclean, hch⟩
  · rw [hty, reorder_cols, List.map_map]
    rfl
  · rw [hrows]
    apply List.map_congr_left
    intro k _
    rw [reorder_cols, List.map_map]
    exact congrArg some (List.map_congr_left fun c _ =>
      congrArg (Prod.mk c.1) (valsOfLabel_sortedByLabel df.index (fun i => c.2.2.getD i default) k))

theorem joinPlan_pos (how : JoinHow) (left keys : List Label) :
    (joinPlan how left keys).map (·.2.1) = ((joinPlan how left keys).map (·.2.2)).map (labelPos keys) := by
  have hrows : ∀ l, ∀ e ∈ joinRowsOf left keys l, e.2.1 = labelPos keys e.2.2 := by
    intro l e he
    unfold joinRowsOf at he
    split at he
    · rw [List.mem_singleton.mp he]
    · obtain ⟨i, _, rfl⟩ := List.mem_map.mp he
      rfl
  rw [List.map_map]
  apply List.map_congr_left
  intro e he
  cases how with
  | left | inner =>
    obtain ⟨i, _, rfl⟩ := List.mem_map.mp he
    rfl
  | right | outer =>
    obtain ⟨l, _, hl⟩ := List.mem_flatMap.mp he
    exact hrows l e hl

/-- **the nested column `add_nested` attaches, for every `how`**: the frame's rows are taken as
    the join plan says, and output row by output row the new column holds the packed row of the
    plan's label, missing when no flat record carries it. -/
theorem addNested_nest [Inhabited α] (F : NFrame α) {flat : FlatDF α} (hne : flat.cols ≠ []) (name : String)
    (how : JoinHow) (na : α) :
    let plan := joinPlan how F.index (packedKeys flat.index)
    ∃ col, F.addNested flat name how na =
        (F.takeRows (plan.map (·.1)) na (plan.map (·.2.2))).map (fun F' => F'.setCol name (.nest col)) ∧
      col.rows = plan.map fun e => if e.2.2 ∈ flat.index then packedRow flat e.2.2 else none := by
  intro plan
  obtain ⟨packed, hpk, hkeys, hwf, hal, _, hrows, _, _⟩ := packFlat_spec flat hne
  obtain ⟨col, hcol, hcr⟩ := take_by_label hwf hal hrows (plan.map (·.2.2))
  refine ⟨col, ?_, ?_⟩
  · unfold NFrame.addNested
    simp only [hpk, Except.ok_bind, Except.pure_eq, hkeys, joinPlan_pos, hcol, plan]
    cases F.takeRows _ na _ <;> rfl
  · rw [hcr, List.map_map]
    exact List.map_congr_left fun e _ => by simp only [Function.comp, mem_packedKeys]

theorem NFrame.takeRows_eq_ok {F F' : NFrame α} {idx : List (Option Nat)} {na : α} {newIndex : List Label} :
    F.takeRows idx na newIndex = .ok F' ↔
      ∃ cols', F.cols.mapM (takeColData idx na) = .ok cols' ∧ { index := newIndex, cols := cols' } = F' := by
  simp only [NFrame.takeRows, exc]

/-- what a consistent frame is, as far as a join needs: every base column has one cell per row,
    every nested column is validated storage with one row per frame row -/
structure NFrame.Consistent (F : NFrame α) : Prop where
  base : ∀ n t v, (n, ColData.base t v) ∈ F.cols → v.length = F.index.length
  nest : ∀ n c, (n, ColData.nest c) ∈ F.cols → c.WF = true ∧ c.aligned ∧ c.len = F.index.length

/-- the same column content: base cells equal, nested rows equal -/
def ColData.same : ColData α → ColData α → Prop
  | .base t v, .base t' v' => t' = t ∧ v' = v
  | .nest c, .nest c' => c'.rows = c.rows
  | _, _ => False

/-- the content of a column at the rows `ps`, in that order -/
def ColData.selected (ps : List Nat) (na : α) : ColData α → ColData α → Prop
  | .base t v, .base t' v' => t' = t ∧ v' = ps.map fun i => v.getD i na
  | .nest c, .nest c' => c'.rows = ps.map fun i => c.rows.getD i none
  | _, _ => False

theorem takeColData_positions {F : NFrame α} (hF : F.Consistent) (na : α) {ps : List Nat}
    (hps : ∀ p ∈ ps, p < F.index.length) :
    ∀ p ∈ F.cols, ∃ p', takeColData (ps.map some) na p = .ok p' ∧ (p'.1 = p.1 ∧ ColData.selected ps na p.2 p'.2) := by
  intro p hp
  obtain ⟨n, d⟩ := p
  cases d with
  | base t v =>
    refine ⟨(n, .base t (ps.map fun i => v.getD i na)), ?_, rfl, rfl, rfl⟩
    unfold takeColData takeBase
    simp only [Except.pure_eq, List.map_map]
    rfl
  | nest c =>
    have ⟨hw, ha, hl⟩ := hF.nest n c hp
    have hidx : optIndexer (ps.map some) = ps.map fun (i : Nat) => (i : Int) := List.map_map ..
    obtain ⟨c', hc', hr⟩ := take_fill_rows hw ha (ps.map fun (i : Nat) => (i : Int)) (List.forall_mem_map.mpr fun p hp' => by
      have := hps p hp'
      rw [PCol.rows_length, hl]
      omega)
    refine ⟨(n, .nest c'), ?_, rfl, ?_⟩
    · unfold takeColData
      simp only [hidx, hc', Except.ok_bind, Except.pure_eq]
    · refine hr.trans ((List.map_map ..).trans (List.map_congr_left fun p _ => ?_))
      rw [Function.comp, if_neg (Int.not_lt.mpr (Int.natCast_nonneg p)), Int.toNat_natCast]

theorem ColData.same_of_selected_range {F : NFrame α} (hF : F.Consistent) {na : α} {p p' : String × ColData α}
    (hp : p ∈ F.cols) (hsel : ColData.selected (List.range F.index.length) na p.2 p'.2) : ColData.same p.2 p'.2 := by
  obtain ⟨n, d⟩ := p
  obtain ⟨n', d'⟩ := p'
  cases d with
  | base t v =>
    cases d' with
    | nest _ => exact hsel
    | base t' v' =>
      refine ⟨hsel.1, hsel.2.trans ?_⟩
      rw [← hF.base n t v hp]
      exact range_getD_self v na
  | nest c =>
    cases d' with
    | base _ _ => exact hsel
    | nest c' =>
      refine Eq.trans hsel ?_
      rw [← (hF.nest n c hp).2.2, ← PCol.rows_length]
      exact range_getD_self c.rows none

/-- **a join whose plan takes the frame rows `kept`, each once, in that order** (`left`: all rows,
    `inner`: those whose label carries a flat record): the frame's columns are read at `kept`, and
    the new column holds the packed row of each kept row's label. -/
theorem addNested_kept [Inhabited α] {F : NFrame α} (hF : F.Consistent) {flat : FlatDF α} (hne : flat.cols ≠ [])
    (name : String) (how : JoinHow) (na : α) (kept : List Nat) (hkept : ∀ p ∈ kept, p < F.index.length)
    (hplan : joinPlan how F.index (packedKeys flat.index) = kept.map fun i =>
      (some i, labelPos (packedKeys flat.index) (F.index.getD i (.int 0)), F.index.getD i (.int 0))) :
    ∃ cols' col, F.addNested flat name how na =
        .ok (NFrame.setCol { index := kept.map fun i => F.index.getD i (.int 0), cols := cols' } name (.nest col)) ∧
      All2 (fun p p' => p'.1 = p.1 ∧ ColData.selected kept na p.2 p'.2) F.cols cols' ∧
      col.rows = kept.map fun i =>
        if F.index.getD i (.int 0) ∈ flat.index then packedRow flat (F.index.getD i (.int 0)) else none := by
  obtain ⟨col, hadd, hcr⟩ := addNested_nest F hne name how na
  obtain ⟨cols', hall⟩ := All2.of_forall_exists (takeColData_positions hF na hkept)
  simp only [hplan, List.map_map] at hadd hcr
  refine ⟨cols', col, ?_, hall.mono fun _ _ _ _ h => h.2, hcr⟩
  rw [hadd]
  show (F.takeRows (kept.map some) na (kept.map fun i => F.index.getD i (.int 0))).map _ = _
  rw [NFrame.takeRows_eq_ok.mpr ⟨cols', mapM_eq_ok.mpr (hall.mono fun _ _ _ _ h => h.1), rfl⟩]
  rfl

/-- **`add_nested(how="left")` end to end** (in words at `C09.add_nested_left_end_to_end`). -/
theorem addNested_left_rows [Inhabited α] (F : NFrame α) (hF : F.Consistent) (flat : FlatDF α)
    (hne : flat.cols ≠ []) (name : String) (na : α) :
    ∃ cols' col, F.addNested flat name .left na =
        .ok (NFrame.setCol { index := F.index, cols := cols' } name (.nest col)) ∧
      All2 (fun p p' => p'.1 = p.1 ∧ ColData.same p.2 p'.2) F.cols cols' ∧
      col.rows = F.index.map fun l => if l ∈ flat.index then packedRow flat l else none := by
  obtain ⟨cols', col, hok, hall, hcr⟩ := addNested_kept hF hne name .left na (List.range F.index.length)
    (fun _ h => List.mem_range.mp h) rfl
  rw [range_getD_self] at hok
  refine ⟨cols', col, hok, hall.mono fun p p' hp _ h => ⟨h.1, ColData.same_of_selected_range hF hp h.2⟩, ?_⟩
  exact hcr.trans (map_range_getD (fun l => if l ∈ flat.index then packedRow flat l else none) F.index (.int 0))

/-- **`from_flat` end to end** (in words at `C09.from_flat_end_to_end`). -/
theorem fromFlat_rows [Inhabited α] (index : List Label) (base nested : List (String × String × List α))
    (hb : ∀ c ∈ base, c.2.2.length = index.length) (hne : nested ≠ []) (name : String) (na : α) :
    ∃ cols' col, NFrame.fromFlat index base nested name na =
        .ok (NFrame.setCol { index := firstLabels index, cols := cols' } name (.nest col)) ∧
      All2 (fun p p' => p'.1 = p.1 ∧ ColData.same p.2 p'.2)
        (base.map fun c => (c.1, ColData.base c.2.1 (filterBy ((duplicatedFirst index).map (!·)) c.2.2))) cols' ∧
      col.rows = (firstLabels index).map (packedRow { index := index, cols := nested }) := by
  let keep := (duplicatedFirst index).map (!·)
  let F : NFrame α := { index := filterBy keep index
                        cols := base.map fun c => (c.1, ColData.base c.2.1 (filterBy keep c.2.2)) }
  have hF : F.Consistent := by
    constructor
    · intro n t v h
      obtain ⟨c, hc, he⟩ := List.mem_map.mp h
      cases he
      exact filterBy_length_eq (hb c hc)
    · intro n c h
      obtain ⟨c', _, he⟩ := List.mem_map.mp h
      cases he
  -- `from_flat` is `add_nested(how="left")` on `F`: its pattern-matching `fun (n, t, v) => …` unfolds to `F.cols`
  obtain ⟨cols', col, hok, hall, hrows⟩ := addNested_left_rows F hF { index := index, cols := nested } hne name na
  refine ⟨cols', col, hok, hall, ?_⟩
  rw [hrows]
  exact List.map_congr_left fun l hl => if_pos (mem_of_mem_filterBy hl)

theorem find_named {β γ : Type} (g : String × β → γ) {cols : List (String × β)}
    (hd : (cols.map (·.1)).Pairwise (· ≠ ·)) {c : String × β} (hc : c ∈ cols) :
    (cols.map fun c' => (c'.1, g c')).find? (·.1 == c.1) = some (c.1, g c) :=
  find_of_nodup_keys _ (by rwa [List.map_map]) (c.1, g c) (List.mem_map.mpr ⟨c, hc, rfl⟩)

theorem packedRow_len [Inhabited α] {df : FlatDF α} (hne : df.cols ≠ []) (k : Label) :
    Row.len (packedRow df k) = (recordsOf df.index k).length := by
  obtain ⟨c0, cs, hc⟩ := List.exists_cons_of_ne_nil hne
  unfold packedRow
  rw [hc]
  simp [Row.len]

/-- **Packing then flattening is the stable sort by label.**  For ANY flat table with at least one
    column and pairwise distinct column names: `pack_flat` succeeds, and `to_flat()` of the packed
    series is the table stably sorted by label — the same records (cell for cell, in every column),
    grouped by ascending label, original relative order kept inside every label; nothing lost,
    duplicated or invented. -/
theorem packFlat_toFlat [Inhabited α] (df : FlatDF α) (hne : df.cols ≠ [])
    (hd : (df.cols.map (·.1)).Pairwise (· ≠ ·)) :
    ∃ packed, packFlat df = .ok packed ∧
      packed.toFlat none = .ok (df.reorder (stableSortPerm df.index) default) := by
  obtain ⟨packed, hpk, hkeys, _, _, hty, hrows, hclean, hch⟩ := packFlat_spec df hne
  refine ⟨packed, hpk, ?_⟩
  have hidx : packed.index.length = packed.col.len := by
    rw [← PCol.rows_length, hrows, hkeys, List.length_map]
  show NSeries.toFlat { index := packed.index, col := packed.col } none = _
  rw [toFlat_refines packed.index packed.col hclean hch hidx, Spec.toFlat_none _ _ hclean.fields]
  simp only [PCol.abs, hty, List.map_map]
  refine congrArg Except.ok ?_
  have hlens : Spec.lens packed.col.rows = (packedKeys df.index).map fun k => (recordsOf df.index k).length := by
    rw [Spec.lens, hrows, List.map_map]
    exact List.map_congr_left fun k _ => packedRow_len hne k
  unfold FlatDF.reorder
  rw [FlatDF.mk.injEq]
  constructor
  · unfold Spec.flatIndex
    rw [hlens, hkeys, labels_repeat, reorder_index]
  · apply List.map_congr_left
    intro c hc
    obtain ⟨n, t, v⟩ := c
    simp only [Function.comp, Prod.mk.injEq, true_and]
    constructor
    · rw [find_named (fun (c' : String × String × List α) => c'.2.1) hd hc]
      rfl
    · unfold Spec.flatField Spec.fieldLists
      rw [hrows, List.map_map, ← records_flatten, List.map_flatten, List.map_map]
      refine congrArg List.flatten (List.map_congr_left fun k _ => ?_)
      simp only [Function.comp, packedRow]
      rw [find_named (fun (c' : String × String × List α) => (recordsOf df.index k).map fun j => c'.2.2.getD j default)
        hd hc]
      rfl

/-- the frame rows an inner join keeps: those whose label carries at least one flat record -/
def innerKept (left flatIndex : List Label) : List Nat :=
  (List.range left.length).filter fun i => decide (left.getD i (.int 0) ∈ flatIndex)

end NP
