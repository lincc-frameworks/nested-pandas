/-
  Selecting rows keeps storage clean (`__getitem__` with a boolean mask, what a base-layer `query` applies to every
  nested column; `take` in both modes; `_concat_same_type`), and base-layer queries keep frames sound.
-/
import NPModel.Refine.SoundFrames
namespace NP
variable {α : Type}

theorem PStruct.filter_chunkClean (ty : List (String × String)) (s : PStruct α) (h : ChunkClean ty s) (m : List Bool)
    (hm : m.length = s.len) : ChunkClean ty (s.filter m) := by
  rw [PStruct.filter_eq_take h.wf hm]
  exact PStruct.take_chunkClean h _

theorem filter_go_chunkClean {ty : List (String × String)} : ∀ {chunks : List (PStruct α)} {m : List Bool},
    (∀ s ∈ chunks, ChunkClean ty s) → m.length = sumNat (chunks.map PStruct.len) →
    ∀ s' ∈ PCol.filter.go chunks m, ChunkClean ty s' := by
  intro chunks
  induction chunks with
  | nil => intro m _ _ s' hs'; simp [PCol.filter.go] at hs'
  | cons s rest ih =>
    intro m h hm s' hs'
    rw [List.map_cons, sumNat_cons] at hm
    simp only [PCol.filter.go, List.mem_cons] at hs'
    rcases hs' with rfl | hs'
    · exact PStruct.filter_chunkClean ty s (h s List.mem_cons_self) _ (List.length_take_of_le (hm ▸ Nat.le_add_right _ _))
    · exact ih (fun x hx => h x (List.mem_cons_of_mem _ hx))
        (by rw [List.length_drop, hm, Nat.add_sub_cancel_left]) s' hs'

theorem emptyChunk_chunkClean (ty : List (String × String)) : ChunkClean ty (emptyChunk ty : PStruct α) := by
  refine { wf := ?_, ty_eq := ?_, nullEmpty := ?_, validated := emptyChunk_validate ty,
           noHidden := fun i hi => absurd hi (Nat.not_lt_zero i) }
  · exact List.all_eq_true.mpr fun k hk => by obtain ⟨p, -, rfl⟩ := List.mem_map.mp hk; rfl
  · simp only [PStruct.ty, emptyChunk, List.map_map, Function.comp_def, List.map_id']
  · exact List.all_eq_true.mpr fun k hk => by obtain ⟨p, -, rfl⟩ := List.mem_map.mp hk; rfl

theorem getItem_mask_clean (c : PCol α) (hc : c.Clean) (hch : c.chunks ≠ []) (m : List Bool) (c' : PCol α)
    (h : NArr.getItem c (.mask m) = .ok (.col c')) : c'.Clean ∧ c'.chunks ≠ [] ∧ c'.rows = filterBy m c.rows := by
  unfold NArr.getItem at h
  simp only [exc] at h
  obtain ⟨hml, h⟩ := h
  have hml : m.length = c.len := Decidable.not_not.mp hml
  by_cases h0 : m.length = 0
  · -- a column without rows: the constructor supplies the empty chunk
    rw [if_pos h0] at h
    simp only [exc, NArr.init_eq_ok, GetRes.col.injEq] at h
    obtain ⟨_, ⟨rfl, -⟩, rfl⟩ := h
    have hrows : c.rows = [] := List.eq_nil_of_length_eq_zero (by rw [PCol.rows_length, ← hml, h0])
    refine ⟨clean_of_chunks hc.fields (List.forall_mem_singleton.mpr (emptyChunk_chunkClean c.ty)), List.cons_ne_nil _ _, ?_⟩
    rw [hrows, List.eq_nil_of_length_eq_zero h0]
    rfl
  · rw [if_neg h0] at h
    have hne : (c.filter m).chunks ≠ [] := by
      obtain ⟨s, rest, hcc⟩ := List.exists_cons_of_ne_nil hch
      simp [PCol.filter, hcc, PCol.filter.go]
    simp only [exc, GetRes.col.injEq] at h
    obtain ⟨_, h, rfl⟩ := h
    cases NArr.init_inv hne h
    exact ⟨clean_of_chunks hc.fields (filter_go_chunkClean hc.chunkClean hml),
      hne, PCol.filter_rows hc.wf hml⟩

/-- **a base-layer row filter keeps frames sound**: every base column and the index are filtered by
    the same mask, every nested column is selected by it into clean storage -/
theorem filterRows_sound (F : NFrame Cell) (h : F.Sound) (keep : List Bool) (F' : NFrame Cell)
    (hok : F.filterRows keep = .ok F') : F'.Sound := by
  obtain ⟨cols', hcols, hok⟩ := Except.bind_eq_ok.mp hok
  cases hok
  refine sound_of_colwise h hcols _ fun p p' hp hg => ?_
  rcases p with ⟨n, ⟨t, v⟩ | c⟩
  · cases hg
    exact filterBy_length_eq hp
  · obtain ⟨hc, hch, hl⟩ := hp
    obtain ⟨r, hget, hg⟩ := Except.bind_eq_ok.mp hg
    cases r with
    | row _ => cases hg
    | col c' =>
      cases hg
      have ⟨hc', hch', hrows⟩ := getItem_mask_clean c hc hch keep c' hget
      refine ⟨hc', hch', ?_⟩
      rw [← PCol.rows_length, hrows]
      exact filterBy_length_eq (by rw [PCol.rows_length, hl])

theorem queryBase_sound {F F' : NFrame Cell} (h : F.Sound) {e : Expr} (hl : e.layers = [] ∨ e.layers = [none])
    (hok : F.query e = .ok F') : F'.Sound := by
  obtain ⟨_, -, hok⟩ := (NFrame.query_base_eq_ok hl).mp hok
  exact filterRows_sound F h _ F' hok

/-- `FrameOp` and base-layer queries -/
inductive AnyOp where
  | frame (op : FrameOp)
  | baseQuery (e : Expr)

def AnyOp.run (F : NFrame Cell) : AnyOp → R (NFrame Cell)
  | .frame op => op.run F
  | .baseQuery e => if e.layers = [] ∨ e.layers = [none] then F.query e else .error .valueError

def runAnyChain (F : NFrame Cell) : List AnyOp → R (NFrame Cell)
  | [] => .ok F
  | op :: ops => match op.run F with
    | .ok F' => runAnyChain F' ops
    | .error e => .error e

theorem AnyOp.run_sound {F F' : NFrame Cell} (h : F.Sound) : ∀ {op : AnyOp}, op.run F = .ok F' → F'.Sound
  | .frame _, hr => FrameOp.run_sound h hr
  | .baseQuery e, hr => by
    simp only [AnyOp.run] at hr
    split at hr
    · exact queryBase_sound h ‹_› hr
    · cases hr

theorem runAnyChain_sound : ∀ (ops : List AnyOp) (F : NFrame Cell), F.Sound → ∀ F', runAnyChain F ops = .ok F' → F'.Sound :=
  chain_invariant (fun _ => rfl) (fun G op ops => by rw [runAnyChain]; cases op.run G <;> rfl)
    fun _ _ _ hG => AnyOp.run_sound hG

/-- **`take` in both modes keeps storage clean** (without fill: positions, negatives from the end;
    with a missing fill value: `-1` ↦ missing) -/
theorem NArr.take_clean (c : PCol α) (hc : c.Clean) (indices : List Int) (allowFill : Bool) (c' : PCol α)
    (h : NArr.take c indices allowFill none = .ok c') : c'.Clean ∧ c'.len = indices.length ∧ c'.chunks ≠ [] := by
  cases allowFill with
  | true =>
    have ⟨h1, h2, _, h4⟩ := take_none_clean c hc indices c' h
    exact ⟨h1, h2, h4⟩
  | false =>
    have ⟨k1, k2, k3⟩ := PCol.take_clean hc (indices.map (normPos c.len))
    cases (NArr.take_inv h).1
    exact ⟨k1, k2.trans (List.length_map _), k3⟩

/-- **`_concat_same_type` keeps storage clean**: the chunks of clean inputs that declare `ty` -/
theorem concat_clean (ty : List (String × String)) (hty : ty ≠ []) (cs : List (PCol α))
    (hcs : ∀ c ∈ cs, c.Clean ∧ c.ty = ty) (hne : cs.flatMap (·.chunks) ≠ []) (c' : PCol α)
    (h : NArr.concat ty cs = .ok c') : c'.Clean ∧ c'.chunks ≠ [] := by
  cases NArr.init_inv (c := { ty := ty, chunks := cs.flatMap (·.chunks) }) hne h
  refine ⟨clean_of_chunks hty fun s hs => ?_, hne⟩
  obtain ⟨c, hc, hsc⟩ := List.mem_flatMap.mp hs
  have ⟨hcl, hct⟩ := hcs c hc
  exact hct ▸ hcl.chunkClean s hsc

end NP
