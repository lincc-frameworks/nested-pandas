/-
  `pack_sorted_df_into_struct` (packer.py:138-163) as a function of the flat table: list views over
  the flat columns cut by the offsets of the label runs.  The call succeeds exactly on a table with
  a monotone index and at least one column, each as long as the index or longer; it returns clean
  storage and groups the records by label.
-/
import NPModel.Refine.PackFlat
import NPModel.Refine.Observers
import NPModel.Refine.Select
namespace NP
variable {α : Type}

theorem packOffsets_last {β : Type} [BEq β] (labels : List β) : (packOffsets labels).getLast? = some labels.length := by
  simp [packOffsets]

theorem packOffsets_ne_nil {β : Type} [BEq β] {labels : List β} : packOffsets labels ≠ [] := by simp [packOffsets]

theorem packOffsets_monotone {β : Type} [BEq β] (labels : List β) : monotone (packOffsets labels) = true := by
  rw [monotone_iff_pairwise, packOffsets, List.pairwise_append]
  refine ⟨(nonzeroFrom_pairwise _ 0).imp Nat.le_of_lt, List.pairwise_singleton _ _, ?_⟩
  intro a ha b hb
  rw [List.mem_singleton.mp hb]
  obtain ⟨j, hj, _, rfl⟩ := mem_nonzeroFrom.mp ha
  simp only [List.length_map, dupFirstGen, dupFirstGo_length] at hj
  omega

theorem packOffsets_head_le {β : Type} [BEq β] (labels : List β) : (packOffsets labels).head?.getD 0 ≤ labels.length := by
  cases h : packOffsets labels with
  | nil => exact Nat.zero_le _
  | cons a rest =>
    exact monotone_le_last (packOffsets_monotone labels) (by rw [packOffsets_last]; exact Nat.le_refl _) a
      (by rw [h]; exact List.mem_cons_self)

theorem isMonotone_iff_pairwise {l : List Label} : isMonotone l = true ↔ l.Pairwise (fun a b => a.le b = true) := by
  induction l with
  | nil => exact ⟨fun _ => .nil, fun _ => rfl⟩
  | cons a l ih =>
    cases l with
    | nil => exact ⟨fun _ => List.pairwise_singleton _ _, fun _ => rfl⟩
    | cons b rest =>
      rw [isMonotone, Bool.and_eq_true, ih, List.pairwise_cons (a := a)]
      refine and_congr_left fun h => ⟨fun hab x hx => ?_, fun h' => h' b List.mem_cons_self⟩
      rcases List.mem_cons.mp hx with rfl | hx
      · exact hab
      · exact Label.le_trans a b x hab ((List.pairwise_cons.mp h).1 x hx)

/-- the chunk the packer builds: every flat column viewed through the same offsets, all lists
    valid, every row present -/
def packedChunk (offs : List Nat) (cols : List (String × String × List α)) : PStruct α :=
  { valid := List.replicate (offs.length - 1) true
    kids := cols.map fun col => { name := col.1, ty := col.2.1
                                  list := { offs := offs, valid := List.replicate (offs.length - 1) true, vals := col.2.2 } } }

/-- **`pack_sorted_df_into_struct` succeeds on a table with a monotone index and returns the list
    views**: the unique labels read at the run offsets, and one chunk of views over the flat
    columns (zero copy: the columns' own buffers, the same offsets for every field). -/
theorem packSortedDf_ok (df : FlatDF α) (hm : isMonotone df.index = true)
    (hc : ∀ col ∈ df.cols, df.index.length ≤ col.2.2.length) (hne : df.cols ≠ []) :
    packSortedDf df = .ok
      { index := ((packOffsets df.index).dropLast).map fun o => df.index.getD o (.int 0)
        col := { ty := df.cols.map fun col => (col.1, col.2.1)
                 chunks := [packedChunk (packOffsets df.index) df.cols] } } := by
  simp only [packSortedDf, calculateSortedIndexOffsets, exc]
  -- one witness and one equation per monadic step: the offsets (monotone guard), the kids
  -- (`mapM listFromArrays`, first bullet), the chunk (`structFromArrays`, second bullet), the column (`init`)
  refine ⟨_, ⟨fun h => h hm, rfl⟩, (packedChunk (packOffsets df.index) df.cols).kids, mapM_ok_of_forall _ ?_,
    packedChunk (packOffsets df.index) df.cols, ?_, _, NArr.init_eq_ok.mpr ⟨rfl, fun h => by cases h⟩, rfl⟩
  · intro col hcol
    have hlen := hc col hcol
    simp only [listFromArrays, packOffsets_last, exc]
    exact ⟨_, ⟨⟨hlen, Nat.le_trans (packOffsets_head_le df.index) hlen⟩, rfl⟩, rfl⟩
  · obtain ⟨c0, rest, hcols⟩ := List.exists_cons_of_ne_nil hne
    simp [structFromArrays, packedChunk, hcols, PList.len]

/-- what a successful `pack_sorted_df_into_struct` implies about its argument -/
theorem packSortedDf_inv (df : FlatDF α) (packed : NSeries α) (h : packSortedDf df = .ok packed) :
    isMonotone df.index = true ∧ (∀ col ∈ df.cols, df.index.length ≤ col.2.2.length) ∧ df.cols ≠ [] := by
  simp only [packSortedDf, calculateSortedIndexOffsets, exc] at h
  obtain ⟨_, ⟨hm, rfl⟩, kids, hk, _, hs, _⟩ := h
  refine ⟨Decidable.not_not.mp hm, fun col hcol => ?_, fun hnil => ?_⟩
  · obtain ⟨i, hi, rfl⟩ := List.getElem_of_mem hcol
    have hk := mapM_eq_ok.mp hk
    have hf := hk.get i _ _ (List.getElem?_eq_getElem hi) (List.getElem?_eq_getElem (hk.length_eq ▸ hi))
    simp only [listFromArrays, packOffsets_last, exc] at hf
    obtain ⟨_, ⟨⟨hlen, _⟩, _⟩, _⟩ := hf
    exact hlen
  · rw [hnil] at hk
    cases hk
    simp [structFromArrays] at hs

theorem packedChunk_len (offs : List Nat) (cols : List (String × String × List α)) :
    (packedChunk offs cols).len = offs.length - 1 := by
  simp [packedChunk, PStruct.len]

theorem packedChunk_ty {offs : List Nat} {cols : List (String × String × List α)} :
    (packedChunk offs cols).ty = cols.map fun c => (c.1, c.2.1) := by
  simp [packedChunk, PStruct.ty, Function.comp]

theorem packedChunk_rows (offs : List Nat) (cols : List (String × String × List α)) :
    (packedChunk offs cols).rows = (List.range (offs.length - 1)).map fun i =>
      some (cols.map fun col => (col.1, (segs offs col.2.2).getD i [])) := by
  unfold PStruct.rows
  rw [packedChunk_len]
  apply List.map_congr_left
  intro i hi
  have hi' : i < offs.length - 1 := List.mem_range.mp hi
  unfold PStruct.rowAt packedChunk
  simp only [List.getD_eq_getElem?_getD, List.getElem?_replicate, hi', if_true, Option.getD_some, List.map_map,
    Option.some.injEq]
  apply List.map_congr_left
  intro col _
  simp only [Function.comp, PList.rows_allValid, List.getElem?_map]
  cases (segs offs col.2.2)[i]? <;> rfl

theorem packedChunk_WF {offs : List Nat} {cols : List (String × String × List α)} (hne : offs ≠ [])
    (hm : monotone offs = true) (hl : ∀ c ∈ cols, offs.getLast?.getD 0 ≤ c.2.2.length) :
    (packedChunk offs cols).WF = true :=
  PStruct.WF_iff.mpr (List.forall_mem_map.mpr fun c hc => ⟨PList.view_WF hne hm (hl c hc), rfl⟩)

theorem packedCol_clean {offs : List Nat} {cols : List (String × String × List α)} (hne : offs ≠ [])
    (hm : monotone offs = true) (hl : ∀ c ∈ cols, offs.getLast?.getD 0 ≤ c.2.2.length) (hc : cols ≠ []) :
    PCol.Clean { ty := cols.map fun c => (c.1, c.2.1), chunks := [packedChunk offs cols] } := by
  refine clean_of_chunks (fun h => hc (List.map_eq_nil_iff.mp h)) fun s hs => ?_
  rw [List.mem_singleton.mp hs]
  refine ⟨packedChunk_WF hne hm hl, packedChunk_ty, ?_, ?_, fun i hi hv => ?_⟩
  · exact List.all_eq_true.mpr (List.forall_mem_map.mpr fun _ _ =>
      nullEmpty_of_allValid fun _ hv => (List.mem_replicate.mp hv).2)
  · -- every field has the same offsets
    cases cols with
    | nil => rfl
    | cons c cs =>
      refine if_pos (List.all_eq_true.mpr fun k hk => ?_)
      obtain ⟨c', _, rfl⟩ := List.mem_map.mp hk
      exact beq_self_eq_true _
  · -- every row is present
    rw [packedChunk_len] at hi
    rw [show (packedChunk offs cols).valid = List.replicate (offs.length - 1) true from rfl,
      List.getD_eq_getElem?_getD, List.getElem?_replicate, if_pos hi] at hv
    cases hv

/-- **whatever `pack_sorted_df_into_struct` returns is clean storage** with one row per packed label -/
theorem packSortedDf_clean (df : FlatDF α) (packed : NSeries α) (h : packSortedDf df = .ok packed) :
    packed.col.Clean ∧ packed.col.chunks ≠ [] ∧ packed.index.length = packed.col.len := by
  have ⟨hm, hc, hne⟩ := packSortedDf_inv df packed h
  rw [packSortedDf_ok df hm hc hne] at h
  cases h
  have hlast : ∀ c ∈ df.cols, (packOffsets df.index).getLast?.getD 0 ≤ c.2.2.length := by
    intro c hcm
    rw [packOffsets_last]
    exact hc c hcm
  refine ⟨packedCol_clean packOffsets_ne_nil (packOffsets_monotone _) hlast hne, List.cons_ne_nil _ _, ?_⟩
  rw [← PCol.rows_length, PCol.rows_single, PStruct.rows_length, packedChunk_len, List.length_map, List.length_dropLast]

/-- **`pack_sorted_df_into_struct` groups the records by label**: one row per distinct label, in
    order of first occurrence, holding for every column at once the cells of the records labelled
    `k`, in order.  Every column sees the same index, so one list statement serves them all. -/
theorem packSortedDf_groups (df : FlatDF α) (hm : isMonotone df.index = true)
    (hc : ∀ c ∈ df.cols, c.2.2.length = df.index.length) (hne : df.cols ≠ []) :
    ∃ packed, packSortedDf df = .ok packed ∧ packed.index = firstLabels df.index ∧
      packed.col.Clean ∧ packed.col.chunks ≠ [] ∧
      packed.col.ty = df.cols.map (fun c => (c.1, c.2.1)) ∧
      packed.col.rows = (firstLabels df.index).map fun k =>
        some (df.cols.map fun c => (c.1, valsOfLabel k df.index c.2.2)) := by
  have hok := packSortedDf_ok df hm (fun c hcm => Nat.le_of_eq (hc c hcm).symm) hne
  have hsegs : ∀ {γ : Type} (vals : List γ), df.index.length = vals.length →
      segs (packOffsets df.index) vals = (firstLabels df.index).map fun k => valsOfLabel k df.index vals :=
    fun vals hl => segs_packOffsets_sorted Label.le Label.le_antisymm hl (isMonotone_iff_pairwise.mp hm)
  have hlen : (packOffsets df.index).length - 1 = (firstLabels df.index).length := by
    rw [← segs_length _ df.index, hsegs _ rfl, List.length_map]
  refine ⟨_, hok, packOffsets_keys, (packSortedDf_clean df _ hok).1, List.cons_ne_nil _ _, rfl, ?_⟩
  rw [PCol.rows_single, packedChunk_rows, hlen]
  -- row `i` is the row of the `i`-th first label
  refine Eq.trans (List.map_congr_left fun i hi => ?_) (map_range_getD _ (firstLabels df.index) (.int 0))
  refine congrArg some (List.map_congr_left fun c hcm => congrArg (Prod.mk c.1) ?_)
  simp only [hsegs _ (hc c hcm).symm, List.getD_eq_getElem?_getD, List.getElem?_map,
    List.getElem?_eq_getElem (List.mem_range.mp hi), Option.map_some, Option.getD_some]

end NP
