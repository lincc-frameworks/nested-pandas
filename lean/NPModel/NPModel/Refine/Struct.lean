/-
  NPModel.Refine.Struct — the logical reading (`rows`) of list arrays, chunks and columns: what the
  canonical layout and the kernels `slice`, `take` and `combine_chunks` do to it, and what
  well-formed storage whose null lists are empty (`nullEmpty`, defined here) shows of its extents.
-/
import NPModel.Refine.Segs
namespace NP
variable {α : Type}

theorem PList.WF_iff {l : PList α} : l.WF = true ↔
    l.offs.length = l.valid.length + 1 ∧ monotone l.offs = true ∧ l.offs.getLast?.getD 0 ≤ l.vals.length := by
  simp only [PList.WF, Bool.and_eq_true, decide_eq_true_eq, and_assoc]

theorem PStruct.WF_iff {s : PStruct α} : s.WF = true ↔ ∀ k ∈ s.kids, k.list.WF = true ∧ k.list.len = s.len := by
  simp only [PStruct.WF, List.all_eq_true, Bool.and_eq_true, decide_eq_true_eq]

theorem PCol.WF_iff {c : PCol α} : c.WF = true ↔ ∀ s ∈ c.chunks, s.WF = true ∧ s.ty = c.ty := by
  simp only [PCol.WF, List.all_eq_true, Bool.and_eq_true, decide_eq_true_eq]

theorem PList.WF.offs_ne_nil {l : PList α} (h : l.WF = true) : l.offs ≠ [] :=
  List.ne_nil_of_length_pos (by rw [(PList.WF_iff.mp h).1]; exact Nat.succ_pos _)

theorem PList.rows_length (l : PList α) (h : l.offs.length = l.valid.length + 1) :
    l.rows.length = l.valid.length := by
  simp [PList.rows, segs_length, h]

theorem PList.ofRows_rows (rows : List (Option (List α))) : (PList.ofRows rows).rows = rows := by
  have h := segs_canonical (rows.map fun r => r.getD [])
  simp only [List.map_map, Function.comp_def] at h
  simp only [PList.rows, PList.ofRows, h, List.zipWith_map, List.zipWith_self]
  exact List.map_id'' (fun r => by cases r <;> rfl) rows

theorem PList.ofRows_len (rows : List (Option (List α))) : (PList.ofRows rows).len = rows.length := by
  simp [PList.ofRows, PList.len]

theorem PList.slice_rows (l : PList α) (st n : Nat) :
    (l.slice st n).rows = (l.rows.drop st).take n := by
  unfold PList.rows PList.slice
  simp only [segs_window, List.take_zipWith, List.drop_zipWith]

theorem PList.take_rows (l : PList α) (idx : List (Option Nat)) :
    (l.take idx).rows = (gather idx l.rows).map Option.join := by
  simp [PList.take, PList.ofRows_rows]

theorem PList.valueLengths_eq_diffs (l : PList α) (hm : monotone l.offs = true)
    (hl : l.offs.getLast?.getD 0 ≤ l.vals.length) :
    (segs l.offs l.vals).map List.length = diffs l.offs := segs_lengths hm hl

/-- what `ListArray.from_arrays(offs, vals)` builds: views into `vals`, none of them null -/
abbrev PList.view (offs : List Nat) (vals : List α) : PList α :=
  { offs := offs, valid := List.replicate (offs.length - 1) true, vals := vals }

theorem PList.view_WF {offs : List Nat} {vals : List α} (hne : offs ≠ []) (hm : monotone offs = true)
    (hl : offs.getLast?.getD 0 ≤ vals.length) : (PList.view offs vals).WF = true :=
  PList.WF_iff.mpr ⟨by rw [List.length_replicate, Nat.sub_add_cancel (List.length_pos_iff.mpr hne)], hm, hl⟩

theorem PList.rows_allValid (offs : List Nat) (vals : List α) : (PList.view offs vals).rows = (segs offs vals).map some := by
  simp only [PList.rows, ← segs_length offs vals]
  generalize segs offs vals = ss
  induction ss with
  | nil => rfl
  | cons s ss ih => simp [List.replicate_succ, ih]

/-- every null list has an empty extent (true of all arrays pyarrow kernels and `pa.array` build) -/
def PList.nullEmpty (l : PList α) : Bool :=
  (List.zip l.valid (diffs l.offs)).all fun p => p.1 || p.2 == 0

def PStruct.nullEmpty (s : PStruct α) : Bool := s.kids.all fun k => k.list.nullEmpty

theorem nullEmpty_of_allValid {l : PList α} (hv : ∀ v ∈ l.valid, v = true) : l.nullEmpty = true := by
  unfold PList.nullEmpty
  rw [List.all_eq_true]
  intro p hp
  have := hv p.1 (List.of_mem_zip hp).1
  simp [this]

/-- the length a stored list shows, a null list counting as empty -/
def len0 (r : Option (List α)) : Nat := (r.getD []).length

theorem PList.ofRows_offs (rows : List (Option (List α))) : (PList.ofRows rows).offs = offsetsFrom 0 (rows.map len0) := rfl

/-- masking extents by validity and reading nulls as empty gives the extents back when the masked
    ones are empty -/
theorem unmask_segs : ∀ {vs : List Bool} {ss : List (List α)}, vs.length = ss.length →
    (List.zip vs (ss.map List.length)).all (fun p => p.1 || p.2 == 0) = true →
    (List.zipWith (fun v s => if v then some s else none) vs ss).map (·.getD []) = ss
  | [], [], _, _ => rfl
  | v :: vs, s :: ss, hl, h => by
    simp only [List.map_cons, List.zip_cons_cons, List.all_cons, Bool.and_eq_true, Bool.or_eq_true, beq_iff_eq,
      List.length_eq_zero_iff] at h
    rw [List.zipWith_cons_cons, List.map_cons, unmask_segs (by simpa using hl) h.2]
    rcases h.1 with rfl | rfl
    · rfl
    · cases v <;> rfl

theorem PList.rows_getD_eq_segs {l : PList α} (hw : l.WF = true) (hne : l.nullEmpty = true) :
    l.rows.map (·.getD []) = segs l.offs l.vals := by
  have ⟨h1, hm, hl⟩ := PList.WF_iff.mp hw
  refine unmask_segs (by rw [segs_length, h1]; rfl) ?_
  rw [segs_lengths hm hl]
  exact hne

theorem PList.lens_eq_diffs {l : PList α} (hw : l.WF = true) (hne : l.nullEmpty = true) :
    l.rows.map len0 = diffs l.offs := by
  have ⟨_, hm, hl⟩ := PList.WF_iff.mp hw
  rw [← segs_lengths hm hl, ← PList.rows_getD_eq_segs hw hne, List.map_map]
  rfl

theorem PList.flatten_allValid {l : PList α} (hv : ∀ v ∈ l.valid, v = true)
    (hlen : l.offs.length = l.valid.length + 1) :
    l.flatten = (segs l.offs l.vals).flatten := by
  unfold PList.flatten PList.rows
  rw [unmask_segs (by rw [segs_length, hlen]; rfl)
    (List.all_eq_true.mpr fun p hp => by simp [hv p.1 (List.of_mem_zip hp).1])]

theorem PStruct.names_of_ty {s : PStruct α} {ty : List (String × String)} (h : s.ty = ty) :
    s.kids.map (·.name) = ty.map (·.1) := by
  rw [← h]
  simp [PStruct.ty]

theorem PStruct.kids_length_of_ty {s : PStruct α} {ty : List (String × String)} (h : s.ty = ty) :
    s.kids.length = ty.length := by
  rw [← h, PStruct.ty, List.length_map]

theorem PStruct.rows_length (s : PStruct α) : s.rows.length = s.len := by
  simp [PStruct.rows]

theorem PCol.rows_length (c : PCol α) : c.rows.length = c.len := by
  rw [PCol.rows, PCol.len, List.length_flatMap, sumNat_eq_sum]
  exact congrArg List.sum (List.map_congr_left fun s _ => s.rows_length)

theorem PCol.len_eq_of_rows {c₁ c₂ : PCol α} (h : c₁.rows = c₂.rows) : c₁.len = c₂.len := by
  rw [← c₁.rows_length, ← c₂.rows_length, h]

theorem PCol.rows_single {ty : List (String × String)} {s : PStruct α} : PCol.rows ⟨ty, [s]⟩ = s.rows :=
  List.append_nil _

theorem PStruct.kid_rows_length {s : PStruct α} (h : s.WF = true) {k : PField α} (hk : k ∈ s.kids) :
    k.list.rows.length = s.len := by
  have ⟨hw, hl⟩ := PStruct.WF_iff.mp h k hk
  exact (PList.rows_length _ (PList.WF_iff.mp hw).1).trans hl

/-- what row `i` of the chunk holds in storage, whether or not the row is marked missing -/
def PStruct.storedAt (s : PStruct α) (i : Nat) : Table α :=
  s.kids.map fun k => (k.name, ((k.list.rows.getD i none).getD []))

/-- what a chunk shows at row `i`, as a function of the kids: `s.storedAt i = rowOfKids s.kids i` by `rfl` -/
def rowOfKids (kids : List (PField α)) (i : Nat) : Table α :=
  kids.map fun k => (k.name, ((k.list.rows.getD i none).getD []))

theorem PStruct.rowAt_eq (s : PStruct α) (i : Nat) :
    s.rowAt i = if s.valid.getD i false then some (rowOfKids s.kids i) else none := rfl

theorem PStruct.rows_getElem?_of_lt {s : PStruct α} {i : Nat} (h : i < s.len) : s.rows[i]? = some (s.rowAt i) := by
  simp [PStruct.rows, h]

/-- The index-wise normal form, with no side condition on `i`: equalities between `rows` of chunks go by
    `List.ext_getElem?` and rewriting both sides with this and `storedAt_eq`. -/
theorem PStruct.rows_getElem? (s : PStruct α) (i : Nat) :
    s.rows[i]? = s.valid[i]?.map fun v => if v then some (s.storedAt i) else none := by
  by_cases h : i < s.valid.length
  · rw [PStruct.rows_getElem?_of_lt h, PStruct.rowAt, List.getD_eq_getElem?_getD, List.getElem?_eq_getElem h]; rfl
  · rw [List.getElem?_eq_none (by rw [PStruct.rows_length]; exact Nat.le_of_not_lt h),
      List.getElem?_eq_none (Nat.le_of_not_lt h)]; rfl

theorem PStruct.rows_getD (s : PStruct α) (i : Nat) : s.rows.getD i none = s.rowAt i := by
  rw [List.getD_eq_getElem?_getD, PStruct.rows_getElem?, PStruct.rowAt, List.getD_eq_getElem?_getD]
  cases s.valid[i]? <;> rfl

theorem getD_none_eq_join {β : Type} (o : Option (Option β)) : o.getD none = o.join := by
  cases o <;> rfl

theorem PStruct.storedAt_eq (s : PStruct α) (i : Nat) :
    s.storedAt i = s.kids.map fun k => (k.name, (k.list.rows[i]?.join).getD []) := by
  simp only [PStruct.storedAt, List.getD_eq_getElem?_getD, getD_none_eq_join]

theorem PStruct.slice_rows_window (s : PStruct α) (st n : Nat) :
    (s.slice st n).rows = (s.rows.drop st).take n := by
  apply List.ext_getElem?
  intro i
  simp only [PStruct.rows_getElem?, PStruct.storedAt_eq, PStruct.slice, List.getElem?_take, List.getElem?_drop,
    List.map_map, Function.comp_def, PList.slice_rows]
  by_cases h : i < n
  · simp only [if_pos h]
  · simp only [if_neg h, Option.map_none]

theorem PStruct.slice_rows (s : PStruct α) (st n : Nat) (h : st + n ≤ s.len) :
    (s.slice st n).rows = (s.rows.drop st).take n :=
  s.slice_rows_window st n

theorem PStruct.take_len (s : PStruct α) (idx : List (Option Nat)) : (s.take idx).len = idx.length := by
  simp only [PStruct.take, PStruct.len, gather, List.length_map]

/-- the row an optional position points to: missing for a masked or out-of-range position -/
def pickRow (rows : List (Row α)) (o : Option Nat) : Row α :=
  match o with
  | none => none
  | some j => (rows[j]?).join

theorem PStruct.take_rows (s : PStruct α) (idx : List (Option Nat)) :
    (s.take idx).rows = idx.map (pickRow s.rows) := by
  apply List.ext_getElem?
  intro i
  simp only [PStruct.rows_getElem?, PStruct.storedAt_eq, PStruct.take, gather, List.getElem?_map, List.map_map,
    Function.comp_def, PList.take_rows, Option.map_map]
  rcases idx[i]? with _ | _ | j
  · rfl
  · rfl
  · show some (if (s.valid[j]?).getD false = true
        then some (s.kids.map fun k => (k.name, (k.list.rows[j]?.join).getD [])) else none) = some ((s.rows[j]?).join)
    rw [PStruct.rows_getElem?, PStruct.storedAt_eq]
    rcases s.valid[j]? with _ | _ | _ <;> rfl

theorem structFromArrays_some_inv {kids : List (PField α)} {v : List Bool} {s : PStruct α}
    (h : structFromArrays kids (some v) = .ok s) : s = { valid := v, kids := kids } ∧ kids ≠ [] := by
  unfold structFromArrays at h
  split at h
  · cases h
  · split at h
    · exact ⟨(Except.ok.inj h).symm, List.cons_ne_nil _ _⟩
    · cases h

theorem listFromArrays_inv {offs : List Nat} {xs : List α} {la : PList α} (h : listFromArrays offs xs = .ok la) :
    la = PList.view offs xs := by
  unfold listFromArrays at h
  split at h
  · cases h
  · split at h
    · exact (Except.ok.inj h).symm
    · cases h

theorem listFromArrays_ok {offs : List Nat} {vals : List α} (hne : offs ≠ [])
    (hhead : offs.headD 0 ≤ vals.length) (hlast : offs.getLast?.getD 0 ≤ vals.length) :
    listFromArrays offs vals = .ok (PList.view offs vals) := by
  unfold listFromArrays
  cases h : offs.getLast? with
  | none => exact absurd (List.getLast?_eq_none_iff.mp h) hne
  | some last =>
    rw [h] at hlast
    rw [List.headD_eq_head?_getD] at hhead
    exact if_pos ⟨hlast, hhead⟩

theorem structFromArrays_none_ok {kids : List (PField α)} (hne : kids ≠ []) (n : Nat) (hl : ∀ k ∈ kids, k.list.len = n) :
    structFromArrays kids none = .ok ⟨List.replicate n true, kids⟩ := by
  obtain ⟨k, ks, rfl⟩ := List.exists_cons_of_ne_nil hne
  have hall : ks.all (fun k' => decide (k'.list.len = n)) = true :=
    List.all_eq_true.mpr fun k' hk' => decide_eq_true (hl k' (List.mem_cons_of_mem _ hk'))
  simp only [structFromArrays, hl k List.mem_cons_self, hall, if_true, Option.getD_none]

def mkRows (V : List Bool) (K : List (String × List (Option (List α)))) : List (Row α) :=
  (List.range V.length).map fun i =>
    if V.getD i false then some (K.map fun p => (p.1, (p.2.getD i none).getD [])) else none

theorem PStruct.rows_eq_mkRows (s : PStruct α) :
    s.rows = mkRows s.valid (s.kids.map fun k => (k.name, k.list.rows)) := by
  simp only [PStruct.rows, mkRows, PStruct.len, List.map_map, Function.comp_def]
  rfl

theorem mkRows_append {ι : Type} (V₁ V₂ : List Bool) (J : List ι) (nm : ι → String)
    (K₁ K₂ : ι → List (Option (List α))) (hK : ∀ j ∈ J, (K₁ j).length = V₁.length) :
    mkRows (V₁ ++ V₂) (J.map fun j => (nm j, K₁ j ++ K₂ j))
      = mkRows V₁ (J.map fun j => (nm j, K₁ j)) ++ mkRows V₂ (J.map fun j => (nm j, K₂ j)) := by
  simp only [mkRows, List.length_append, List.range_add, List.map_append, List.map_map, Function.comp_def,
    List.getD_eq_getElem?_getD]
  -- every field's rows split where the validity splits
  congr 1
  · refine List.map_congr_left fun i hi => ?_
    have h := List.mem_range.mp hi
    rw [List.getElem?_append_left h,
      List.map_congr_left fun j hj => by rw [List.getElem?_append_left (hK j hj ▸ h)]]
  · refine List.map_congr_left fun i _ => ?_
    have h := Nat.le_add_right V₁.length i
    rw [List.getElem?_append_right h, Nat.add_sub_cancel_left,
      List.map_congr_left fun j hj => by rw [List.getElem?_append_right (hK j hj ▸ h), hK j hj, Nat.add_sub_cancel_left]]

theorem PStruct.kidRows_of_get (s : PStruct α) (j : Nat) {k : PField α} (h : s.kids[j]? = some k) :
    s.kidRows j = k.list.rows := by
  unfold PStruct.kidRows
  rw [h]

theorem PStruct.kidRows_length {s : PStruct α} (hw : s.WF = true) (j : Nat) (hj : j < s.kids.length) :
    (s.kidRows j).length = s.valid.length := by
  rw [s.kidRows_of_get j (List.getElem?_eq_getElem hj)]
  exact PStruct.kid_rows_length hw (List.getElem_mem hj)

/-- the fields of a chunk of type `ty`, by position, under the names `combine_chunks` gives them -/
theorem PStruct.kids_eq_range {s : PStruct α} {ty : List (String × String)} (h : s.ty = ty) :
    (s.kids.map fun k => (k.name, k.list.rows))
      = (List.range ty.length).map fun j => ((ty[j]?.getD ("", "")).1, s.kidRows j) := by
  subst h
  apply List.ext_getElem (by simp only [PStruct.ty, List.length_map, List.length_range])
  intro j hj _
  rw [List.length_map] at hj
  simp only [PStruct.ty, List.getElem_map, List.getElem_range, List.getElem?_map, List.getElem?_eq_getElem hj,
    Option.map_some, Option.getD_some, s.kidRows_of_get j (List.getElem?_eq_getElem hj)]

theorem PCol.rows_eq_mkRows (ty : List (String × String)) :
    ∀ (chunks : List (PStruct α)), (∀ s ∈ chunks, s.WF = true ∧ s.ty = ty) →
      chunks.flatMap PStruct.rows
        = mkRows (chunks.flatMap (·.valid))
            ((List.range ty.length).map fun j => ((ty[j]?.getD ("", "")).1, chunks.flatMap fun ch => ch.kidRows j))
  | [], _ => rfl
  | s :: rest, h => by
    have ⟨hw, hty⟩ := h s List.mem_cons_self
    have hlen := PStruct.kids_length_of_ty hty
    simp only [List.flatMap_cons]
    rw [mkRows_append s.valid _ _ _ (fun j => s.kidRows j) _ fun j hj =>
        PStruct.kidRows_length hw j (hlen ▸ List.mem_range.mp hj),
      PCol.rows_eq_mkRows ty rest fun s' hs' => h s' (List.mem_cons_of_mem _ hs'), PStruct.rows_eq_mkRows s,
      PStruct.kids_eq_range hty]

theorem PCol.combine_len (c : PCol α) : c.combine.len = c.len := by
  rw [PCol.len, sumNat_eq_sum]
  exact List.length_flatMap ..

theorem PCol.combine_ty (c : PCol α) : c.combine.ty = c.ty :=
  -- the kids are built from `c.ty` position by position; their names and types read back give `c.ty`
  (List.map_map ..).trans ((map_range_getD (fun p => (p.1, p.2)) c.ty _).trans (List.map_id'' (fun _ => rfl) _))

theorem PCol.combine_kid_rows_length {c : PCol α} (hw : c.WF = true) :
    ∀ k ∈ c.combine.kids, k.list.rows.length = c.len := by
  intro k hk
  obtain ⟨j, hj, rfl⟩ := List.mem_map.mp hk
  rw [PList.ofRows_rows, List.length_flatMap, PCol.len, sumNat_eq_sum]
  refine congrArg List.sum (List.map_congr_left fun s hs => ?_)
  have ⟨hws, hty⟩ := PCol.WF_iff.mp hw s hs
  exact PStruct.kidRows_length hws j (PStruct.kids_length_of_ty hty ▸ List.mem_range.mp hj)

/-- **`combine_chunks` preserves the rows** (struct validity, every field, every row; hidden child
    lists included) for every well-formed column: any number of chunks, empty chunks, slices. -/
theorem PCol.combine_rows (c : PCol α) (hw : c.WF = true) : c.combine.rows = c.rows := by
  rw [PCol.rows, PCol.rows_eq_mkRows c.ty c.chunks (PCol.WF_iff.mp hw), PStruct.rows_eq_mkRows]
  simp only [PCol.combine, List.map_map, Function.comp_def, PList.ofRows_rows]

end NP
