/-
  `sort_values` on a nested layer end to end on the implementation model: the stable sort keeps the
  ordinal index, so the sorted positions are the concatenation of one block per row
  (`splitBy_of_ordinals`), each a permutation of the row's own positions ordered by the keys.
-/
import NPModel.Refine.SortOrder
import NPModel.Refine.QueryRows
namespace NP
variable {α : Type}

theorem flatten_getD_block {β : Type} (d : β) : ∀ (lists : List (List β)) (i q : Nat), q < (lists.getD i []).length →
    lists.flatten.getD (rowStart (lists.map List.length) i + q) d = (lists.getD i []).getD q d := by
  intro lists i q h
  have hs := splitBy_getD (lists.map List.length) lists.flatten i
  rw [← List.append_nil lists.flatten, splitBy_canonical, List.append_nil] at hs
  rw [hs, getD_drop_take]
  exact getD_map List.length lists i [] ▸ h

theorem exists_perm_range_of_perm_range' {b : List Nat} {s n : Nat} (h : b.Perm (List.range' s n)) :
    ∃ σ : List Nat, σ.Perm (List.range n) ∧ b = σ.map (s + ·) := by
  refine ⟨b.map (· - s), ?_, ?_⟩
  · have := h.map (· - s)
    rwa [List.map_sub_range' (Nat.le_refl s), Nat.sub_self, ← List.range_eq_range'] at this
  · rw [List.map_map]
    exact ((List.map_congr_left fun p hp => Nat.add_sub_cancel' (List.mem_range'_1.mp (h.mem_iff.mp hp)).1).trans
      (List.map_id b)).symm

/-- **cut by the rows' record counts, block `i` of a flat list is what carries ordinal `i`**, for
    positions listed row after row (their ordinals read `ordIndex`) -/
theorem splitBy_of_ordinals (lens : List Nat) (perm : List Nat) (hlen : perm.length = sumNat lens)
    (hidx : perm.map (fun p => (ordIndex 0 lens).getD p (.int 0)) = ordIndex 0 lens) (i : Nat) :
    (Spec.splitBy lens perm).getD i [] = perm.filter fun p => (ordIndex 0 lens).getD p (.int 0) == Label.int (i : Int) := by
  have ⟨hflat, hlens⟩ := splitBy_flatten hlen
  have hblock := valsOfLabel_ordIndex 0 (Spec.splitBy lens perm) i
  have := valsOfLabel_map₂ (Label.int (i : Int)) perm (fun p => (ordIndex 0 lens).getD p (.int 0)) id
  rw [hidx, List.map_id, List.map_id] at this
  rw [← this, ← hblock, hlens, hflat, Nat.zero_add]

/-- the flat positions whose ordinal is `i` are the extent of row `i` -/
theorem ordinal_positions (lens : List Nat) (i : Nat) (hi : i < lens.length) :
    ((List.range (ordIndex 0 lens).length).filter fun p => (ordIndex 0 lens).getD p (.int 0) == Label.int (i : Int)) =
      List.range' (rowStart lens i) (lens.getD i 0) := by
  -- block `i` of the identity permutation cut by `lens` (`splitBy_of_ordinals`), and that block is a `range'`
  rw [← splitBy_of_ordinals lens (List.range (ordIndex 0 lens).length) (by rw [List.length_range, ordIndex_length])
    (range_getD_self _ _) i, ordIndex_length, splitBy_getD, List.range_eq_range', List.drop_range', Nat.mul_one, Nat.zero_add,
    List.take_range'_of_length_ge]
  have := rowStart_add_le lens i
  omega

/-- the key columns of the flat table, with their directions -/
def sortKeyCols (flat : FlatDF α) (keys : List (String × Bool)) : List (Bool × List α) :=
  keys.map fun k => (k.2, ((flat.cols.find? (·.1 == k.1)).map (·.2.2)).getD [])

theorem sortKeyCol_ok {flat : FlatDF α} {keys : List (String × Bool)}
    (h : ∀ k ∈ keys, flat.cols.any (·.1 == k.1) = true) :
    keys.mapM (sortKeyCol flat) = .ok (sortKeyCols flat keys) := by
  refine mapM_ok_of_forall _ fun k hk => ?_
  obtain ⟨x, hx⟩ := Option.isSome_iff_exists.mp (List.find?_isSome.mpr (List.any_eq_true.mp (h k hk)))
  rw [sortKeyCol, hx]
  rfl

variable [Inhabited α]

/-- the permutation `sort_values` reads the flat table through -/
def sortPerm (lt : α → α → Bool) (isNull : α → Bool) (naFirst : Bool) (ords : List Label)
    (kcols : List (Bool × List α)) : List Nat :=
  (List.range ords.length).mergeSort (sortLe lt isNull naFirst ords kcols)

theorem sortPerm_perm (lt : α → α → Bool) (isNull : α → Bool) (naFirst : Bool) (ords : List Label)
    (kcols : List (Bool × List α)) : (sortPerm lt isNull naFirst ords kcols).Perm (List.range ords.length) :=
  List.mergeSort_perm _ _

theorem sortPerm_sorted {lt : α → α → Bool} {isNull : α → Bool} (naFirst : Bool)
    (ords : List Label) {kcols : List (Bool × List α)} (h : KeysOrdered lt isNull kcols) :
    (sortPerm lt isNull naFirst ords kcols).Pairwise (fun p q => sortLe lt isNull naFirst ords kcols p q = true) :=
  List.pairwise_mergeSort (fun a b c => sortLe_trans h a b c)
    (fun a b => sortLe_total h a b) _

/-- **the sort never moves a record to another row**: read through the permutation, a
    non-decreasing ordinal index is unchanged -/
theorem sortPerm_keeps_ordinals (lt : α → α → Bool) (isNull : α → Bool) (naFirst : Bool)
    (ords : List Label) (hs : ords.Pairwise (fun a b => a.le b = true)) (kcols : List (Bool × List α))
    (h : KeysOrdered lt isNull kcols) :
    (sortPerm lt isNull naFirst ords kcols).map (fun p => ords.getD p (.int 0)) = ords := by
  refine List.Perm.eq_of_pairwise (fun a b _ _ => Label.le_antisymm a b) ?_ hs ?_
  · exact List.pairwise_map.mpr
      ((sortPerm_sorted naFirst ords h).imp sortLe_ordinal)
  · have := (sortPerm_perm lt isNull naFirst ords kcols).map fun p => ords.getD p (.int 0)
    rwa [range_getD_self] at this

/-- reading the ordinal flat table through a permutation that keeps the ordinal index gives the
    ordinal flat table of the per-row blocks of the permutation -/
theorem reorder_ordFlat (cols : List (String × String × List (List α))) (lens : List Nat) (perm : List Nat)
    (hlen : perm.length = sumNat lens)
    (hidx : perm.map (fun p => (ordIndex 0 lens).getD p (.int 0)) = ordIndex 0 lens) :
    (ordFlat cols lens).reorder perm default =
      ordFlat (cols.map fun c => (c.1, c.2.1,
        (Spec.splitBy lens perm).map fun b => b.map fun p => c.2.2.flatten.getD p default)) lens := by
  unfold FlatDF.reorder ordFlat
  rw [FlatDF.mk.injEq, List.map_map, List.map_map]
  refine ⟨hidx, List.map_congr_left fun c _ => ?_⟩
  show (c.1, c.2.1, perm.map fun i => c.2.2.flatten.getD i default) =
    (c.1, c.2.1, ((Spec.splitBy lens perm).map (List.map fun p => c.2.2.flatten.getD p default)).flatten)
  rw [← splitBy_map, (splitBy_flatten (by rw [List.length_map]; exact hlen)).1]

/-- **`sort_values` on a nested layer, end to end.**  `blocks` = the positions of the flat view in
    their new order, row by row.  In turn: the call succeeds and replaces the one column; its rows
    are the old lists read through the blocks; block `i` has the length of row `i`, permutes the
    positions of row `i`, and is ordered by the keys; the blocks are the sort permutation cut by the
    row lengths. -/
theorem sortNested_rows (lt : α → α → Bool) (isNull : α → Bool) (F : NFrame α)
    (nest : String) (c : PCol α) (hc : F.nest? nest = .ok c) (hclean : c.Clean) (hch : c.chunks ≠ [])
    (hidx : F.index.length = c.len) (keys : List (String × Bool))
    (hkeys : ∀ k ∈ keys, c.ty.any (·.1 == k.1) = true) (naFirst : Bool)
    (hlt : KeysOrdered lt isNull (sortKeyCols (ordFlat (colLists c) (c.rows.map Row.len)) keys)) :
    let lens := c.rows.map Row.len
    let flat := ordFlat (colLists c) lens
    let kcols := sortKeyCols flat keys
    ∃ (blocks : List (List Nat)) (col : PCol α),
      F.sortNested lt isNull nest keys naFirst = .ok (F.setCol nest (.nest col)) ∧
      col.rows = repackedRows ((colLists c).map fun f => (f.1, f.2.1,
        blocks.map fun b => b.map fun p => f.2.2.flatten.getD p default)) lens ∧
      blocks.map List.length = lens ∧
      (∀ i, i < lens.length → (blocks.getD i []).Perm
        ((List.range flat.index.length).filter fun p => flat.index.getD p (.int 0) == Label.int (i : Int))) ∧
      (∀ b ∈ blocks, b.Pairwise fun p q => lexLe lt isNull naFirst (sortKeysAt kcols p q) = true) ∧
      blocks = Spec.splitBy lens (sortPerm lt isNull naFirst flat.index kcols) := by
  intro lens flat kcols
  have hflat : F.ordinalFlat nest = .ok flat := ordinalFlat_refines hc hclean hch hidx
  have hkc : keys.mapM (sortKeyCol flat) = .ok kcols :=
    sortKeyCol_ok fun k hk => ordFlat_has_field lens (hkeys k hk)
  let perm := sortPerm lt isNull naFirst flat.index kcols
  have hperm : perm.Perm (List.range (ordIndex 0 lens).length) := sortPerm_perm lt isNull naFirst flat.index kcols
  have hplen : perm.length = sumNat lens := by
    rw [hperm.length_eq, List.length_range, ordIndex_length]
  have hpidx : perm.map (fun p => (ordIndex 0 lens).getD p (.int 0)) = ordIndex 0 lens :=
    sortPerm_keeps_ordinals lt isNull naFirst (ordIndex 0 lens) (ordIndex_pairwise 0 lens) kcols hlt
  let blocks := Spec.splitBy lens perm
  have ⟨_, hblens⟩ := splitBy_flatten hplen
  -- block `i` holds the positions of row `i`, in the order the sort left them
  have hblock := splitBy_of_ordinals lens perm hplen hpidx
  let cols' : List (String × String × List (List α)) := (colLists c).map fun f => (f.1, f.2.1,
    blocks.map fun b => b.map fun p => f.2.2.flatten.getD p default)
  have hcols' : ∀ f ∈ cols', f.2.2.map List.length = lens := List.forall_mem_map.mpr fun f _ => by
    rw [List.map_map, ← hblens]
    exact List.map_congr_left fun b _ => List.length_map _
  obtain ⟨col, hcol, hrows, -⟩ := setFilteredFlatDf_rows nest (rowLens_length hidx) hcols'
    fun h => colLists_ne_nil hclean (List.map_eq_nil_iff.mp h)
  refine ⟨blocks, col, ?_, hrows, hblens, ?_, ?_, rfl⟩
  · unfold NFrame.sortNested
    simp only [hflat, hkc, Except.ok_bind]
    show F.setFilteredFlatDf nest (flat.reorder perm default) = _
    rw [reorder_ordFlat (colLists c) lens perm hplen hpidx]
    exact hcol
  · intro i hi
    rw [hblock i]
    exact hperm.filter _
  · intro b hb
    obtain ⟨i, hi, rfl⟩ := List.getElem_of_mem hb
    rw [List.getElem_eq_getD [], hblock i]
    -- sorted by (ordinal, keys), and within one ordinal the comparator is the comparison of the keys
    refine ((sortPerm_sorted naFirst flat.index hlt).filter _).imp_of_mem fun hp hq hle => ?_
    rwa [sortLe_same_ordinal (ords := flat.index) (kcols := kcols)
      ((beq_iff_eq.mp (List.mem_filter.mp hp).2).trans (beq_iff_eq.mp (List.mem_filter.mp hq).2).symm)] at hle

end NP
