/-
  NPModel.Refine.Select — selection on chunked storage read as rows: `take`, `filter`,
  `ChunkedArray.slice`, the constructor's chunk normalisation, what `slice.indices` and negative
  positions resolve to, and from these `NestedExtensionArray.__getitem__` for every key.
-/
import NPModel.Refine.Masks
import NPModel.Refine.Validate
namespace NP
variable {α : Type}

theorem PStruct.filter_eq_take {s : PStruct α} (hw : s.WF = true) {m : List Bool} (hm : m.length = s.len) :
    s.filter m = s.take ((nonzeroFrom 0 m).map some) := by
  unfold PStruct.filter PStruct.take
  congr 1
  · exact (map_gather_nonzeroFrom hm.symm fun _ => rfl).symm
  · refine List.map_congr_left fun k hk => ?_
    rw [PList.take, map_gather_nonzeroFrom ((PStruct.kid_rows_length hw hk).trans hm.symm) fun _ => rfl]

theorem PStruct.filter_rows {s : PStruct α} (hw : s.WF = true) (m : List Bool) (hm : m.length = s.len) :
    (s.filter m).rows = filterBy m s.rows := by
  rw [PStruct.filter_eq_take hw hm, PStruct.take_rows, List.map_map]
  exact map_getElem?_nonzeroFrom Option.join (fun _ => rfl) m s.rows [] (hm.trans s.rows_length.symm)

theorem chunkedSlice_rows : ∀ (chunks : List (PStruct α)) (st n : Nat),
    (chunkedSlice chunks st n).flatMap PStruct.rows = ((chunks.flatMap PStruct.rows).drop st).take n := by
  intro chunks
  induction chunks with
  | nil => intro st n; simp [chunkedSlice]
  | cons ch rest ih =>
    intro st n
    have hl : ch.rows.length = ch.len := PStruct.rows_length ch
    simp only [chunkedSlice, List.flatMap_cons, List.drop_append, hl]
    split
    · rename_i hge
      rw [ih, List.drop_eq_nil_of_le (as := ch.rows) (hl ▸ hge), List.nil_append]
    · rename_i hlt
      rw [List.flatMap_cons, PStruct.slice_rows_window, ih, List.drop_zero, List.take_append,
        Nat.sub_eq_zero_of_le (Nat.le_of_not_le hlt), List.drop_zero, List.length_drop, hl]
      congr 1
      · rw [List.take_eq_take_iff, List.length_drop, hl, Nat.min_assoc, Nat.min_self]
      · rcases Nat.le_total n (ch.len - st) with h | h
        · rw [Nat.min_eq_left h, Nat.sub_self, Nat.sub_eq_zero_of_le h]
        · rw [Nat.min_eq_right h]

theorem PCol.take_rows {c : PCol α} (hw : c.WF = true) {idx : List (Option Nat)} :
    (c.take idx).rows = idx.map (pickRow c.rows) := by
  rw [PCol.take, PCol.rows_single, PStruct.take_rows, PCol.combine_rows c hw]

theorem PCol.filter_go_rows : ∀ (chunks : List (PStruct α)) (m : List Bool),
    (∀ s ∈ chunks, s.WF = true) → m.length = sumNat (chunks.map PStruct.len) →
    (PCol.filter.go chunks m).flatMap PStruct.rows = filterBy m (chunks.flatMap PStruct.rows)
  | [], m, _, _ => (filterBy_nil_right m).symm
  | s :: rest, m, hw, hm => by
    rw [List.map_cons, sumNat_cons] at hm
    have hms : (m.take s.len).length = s.len := List.length_take_of_le (hm ▸ Nat.le_add_right _ _)
    rw [PCol.filter.go, List.flatMap_cons, List.flatMap_cons, PStruct.filter_rows (hw s List.mem_cons_self) _ hms,
      PCol.filter_go_rows rest (m.drop s.len) (fun s' hs' => hw s' (List.mem_cons_of_mem _ hs'))
        (by rw [List.length_drop, hm, Nat.add_sub_cancel_left]),
      ← filterBy_append (by rw [hms, PStruct.rows_length]), List.take_append_drop]

theorem PCol.filter_rows {c : PCol α} (hw : c.WF = true) {m : List Bool} (hm : m.length = c.len) :
    (c.filter m).rows = filterBy m c.rows := by
  unfold PCol.filter PCol.rows
  exact PCol.filter_go_rows c.chunks m (fun s hs => (PCol.WF_iff.mp hw s hs).1) hm

/-- the chunk normalisation of `__init__`: a column without chunks gets one empty chunk -/
def PCol.orEmptyChunk (c : PCol α) : PCol α :=
  if c.chunks.isEmpty then { c with chunks := [emptyChunk c.ty] } else c

theorem PCol.orEmptyChunk_of_ne {c : PCol α} (h : c.chunks ≠ []) : c.orEmptyChunk = c :=
  if_neg (mt List.isEmpty_iff.mp h)

theorem PCol.orEmptyChunk_rows (c : PCol α) : c.orEmptyChunk.rows = c.rows := by
  cases c with | mk ty chunks =>
    cases chunks <;> simp [PCol.orEmptyChunk, PCol.rows, PStruct.rows, PStruct.len, emptyChunk]

theorem NArr.init_eq_ok {c c' : PCol α} {v : Bool} :
    NArr.init c v = .ok c' ↔ c' = c.orEmptyChunk ∧ (v = true → c.orEmptyChunk.validate = .ok ()) := by
  unfold NArr.init
  rw [show (if c.chunks.isEmpty then { c with chunks := [emptyChunk c.ty] } else c) = c.orEmptyChunk from rfl]
  cases v <;> simp [exc, @eq_comm _ c', and_comm]

theorem NArr.init_ok {c : PCol α} {v : Bool} (hne : c.chunks ≠ []) (hv : c.validate = .ok ()) :
    NArr.init c v = .ok c :=
  NArr.init_eq_ok.mpr (by rw [PCol.orEmptyChunk_of_ne hne]; exact ⟨rfl, fun _ => hv⟩)

theorem NArr.init_inv {c c' : PCol α} {v : Bool} (hne : c.chunks ≠ []) (h : NArr.init c v = .ok c') : c' = c := by
  rw [← PCol.orEmptyChunk_of_ne hne]; exact (NArr.init_eq_ok.mp h).1

theorem emptyChunk_validate (ty : List (String × String)) : (emptyChunk ty : PStruct α).validate = .ok () := by
  cases ty <;> simp [PStruct.validate, emptyChunk]

theorem emptyChunk_rows (ty : List (String × String)) : (emptyChunk ty : PStruct α).rows = [] := rfl

theorem PCol.orEmptyChunk_validate {c : PCol α} (h : ∀ s ∈ c.chunks, s.validate = .ok ()) :
    c.orEmptyChunk.validate = .ok () := by
  rw [PCol.validate_iff]
  cases c with | mk ty chunks =>
    cases chunks with
    | nil => simpa [PCol.orEmptyChunk] using emptyChunk_validate ty
    | cons _ _ => exact h

/-- the constructor step of every operation that builds a new array -/
theorem NArr.init_rows_ok (c : PCol α) (v : Bool) (hv : v = true → ∀ s ∈ c.chunks, s.validate = .ok ()) :
    (NArr.init c v).map PCol.rows = .ok c.rows := by
  rw [NArr.init_eq_ok.mpr ⟨rfl, fun h => PCol.orEmptyChunk_validate (hv h)⟩]
  exact congrArg Except.ok c.orEmptyChunk_rows

theorem pickRow_some (rows : List (Row α)) (j : Nat) : pickRow rows (some j) = rows.getD j none := by
  unfold pickRow
  simp only [List.getD_eq_getElem?_getD]
  cases rows[j]? <;> rfl

theorem map_pickRow_of_all_some {rows : List (Row α)} {idx : List (Option Nat)} (h : ¬ idx.any Option.isNone = true) :
    idx.map (pickRow rows) = idx.map fun o => rows.getD (o.getD 0) none := by
  apply List.map_congr_left
  intro o ho
  cases o with
  | none => exact absurd (List.any_eq_true.mpr ⟨none, ho, rfl⟩) h
  | some j => exact pickRow_some rows j

theorem normPos_eq_none_iff {n : Nat} {i : Int} : normPos n i = none ↔ i < -(n : Int) ∨ (n : Int) ≤ i := by
  unfold normPos
  simp only [ite_eq_right_iff, reduceCtorEq, imp_false]
  by_cases hi : i < 0
  · rw [if_pos hi]; omega
  · rw [if_neg hi]; omega

theorem normPos_eq_some_iff {n : Nat} {i : Int} {j : Nat} :
    normPos n i = some j ↔ j < n ∧ (j : Int) = if i < 0 then i + n else i := by
  unfold normPos
  generalize (if i < 0 then i + (n : Int) else i) = x
  by_cases hc : 0 ≤ x ∧ x < n
  · rw [if_pos hc, Option.some.injEq, ← Int.ofNat_inj, Int.natCast_toNat_eq_self.mpr hc.1]
    omega
  · rw [if_neg hc]
    simp only [reduceCtorEq, false_iff]
    omega

/-- one end of `slice.indices`: the default when absent, else the value clamped into `[lo, hi]`
    (negative values count from the end) -/
def sliceEnd (n lo hi dflt : Int) : Option Int → Int
  | none => dflt
  | some s => if s < 0 then max (s + n) lo else min s hi

theorem sliceEnd_mem (n lo hi d : Int) (o : Option Int) (h1 : lo ≤ 0) (h3 : n - 1 ≤ hi) (hd : lo ≤ d ∧ d ≤ hi) :
    lo ≤ sliceEnd n lo hi d o ∧ sliceEnd n lo hi d o ≤ hi := by
  cases o with
  | none => exact hd
  | some s =>
    rw [sliceEnd]
    by_cases hs : s < 0
    · rw [if_pos hs]
      exact ⟨Int.le_max_right _ _, Int.max_le.mpr ⟨by omega, Int.le_trans hd.1 hd.2⟩⟩
    · rw [if_neg hs]
      exact ⟨Int.le_min.mpr ⟨by omega, Int.le_trans hd.1 hd.2⟩, Int.min_le_right _ _⟩

theorem sliceIndices_eq (n : Nat) (s e t : Option Int) : sliceIndices n s e t =
    if t.getD 1 = 0 then .error .valueError
    else if 0 < t.getD 1 then .ok (sliceEnd n 0 n 0 s, sliceEnd n 0 n n e, t.getD 1)
    else .ok (sliceEnd n (-1) (n - 1) (n - 1) s, sliceEnd n (-1) (n - 1) (-1) e, t.getD 1) := by
  unfold sliceIndices
  by_cases h0 : t.getD 1 = 0
  · rw [if_pos h0, if_pos h0]
  · rw [if_neg h0, if_neg h0]
    by_cases hp : 0 < t.getD 1
    · have hn : ¬ t.getD 1 < 0 := by omega
      simp only [hp, hn, if_true, if_false]
      cases s <;> cases e <;> rfl
    · have hn : t.getD 1 < 0 := by omega
      simp only [hp, hn, if_true, if_false]
      cases s <;> cases e <;> rfl

/-- all that `rangeList` needs of `slice.indices` -/
theorem sliceIndices_bounds_all {n : Nat} {s e t : Option Int} {a b st : Int} (h : sliceIndices n s e t = .ok (a, b, st)) :
    st ≠ 0 ∧ (0 < st → 0 ≤ a ∧ a ≤ n ∧ 0 ≤ b ∧ b ≤ n) ∧ (st < 0 → -1 ≤ a ∧ a ≤ (n : Int) - 1 ∧ -1 ≤ b ∧ b ≤ (n : Int) - 1) := by
  have hn : (0 : Int) ≤ n := Int.natCast_nonneg n
  rw [sliceIndices_eq] at h
  by_cases h0 : t.getD 1 = 0
  · rw [if_pos h0] at h
    cases h
  · rw [if_neg h0] at h
    by_cases hp : 0 < t.getD 1
    · rw [if_pos hp] at h
      cases h
      have h3 : (n : Int) - 1 ≤ n := Int.sub_le_self _ (by decide)
      have ha := sliceEnd_mem n 0 n 0 s (Int.le_refl _) h3 ⟨Int.le_refl _, hn⟩
      have hb := sliceEnd_mem n 0 n n e (Int.le_refl _) h3 ⟨hn, Int.le_refl _⟩
      exact ⟨h0, fun _ => ⟨ha.1, ha.2, hb.1, hb.2⟩, fun hneg => absurd hp (Int.lt_asymm hneg)⟩
    · rw [if_neg hp] at h
      cases h
      have h3 : (-1 : Int) ≤ n - 1 := by omega
      have ha := sliceEnd_mem n (-1) (n - 1) (n - 1) s (by decide) (Int.le_refl _) ⟨h3, Int.le_refl _⟩
      have hb := sliceEnd_mem n (-1) (n - 1) (-1) e (by decide) (Int.le_refl _) ⟨Int.le_refl _, h3⟩
      exact ⟨h0, fun hp' => absurd hp' hp, fun _ => ⟨ha.1, ha.2, hb.1, hb.2⟩⟩

theorem rangeList_step_one {a b : Int} (ha : 0 ≤ a) (hb : 0 ≤ b) :
    rangeList a b 1 = (List.range (b.toNat - a.toNat)).map fun i => a.toNat + i := by
  obtain ⟨a, rfl⟩ := Int.eq_ofNat_of_zero_le ha
  obtain ⟨b, rfl⟩ := Int.eq_ofNat_of_zero_le hb
  simp only [rangeList, show (1 : Int) > 0 by decide, if_true, Int.toNat_natCast, Int.mul_one, Int.add_sub_cancel,
    Int.ediv_one, Int.ofNat_lt, ← Int.natCast_add]
  by_cases hab : a < b
  · rw [if_pos hab, ← Int.ofNat_sub (Nat.le_of_lt hab), Int.toNat_natCast]
  · rw [if_neg hab, Nat.sub_eq_zero_of_le (Nat.le_of_not_lt hab)]

/-- what `__getitem__` returns, as rows: one row, or the rows of a column -/
def absGet : GetRes α → Sum (Row α) (List (Row α))
  | .row r => .inl r
  | .col c => .inr c.rows

/-- every column-valued branch of `__getitem__` ends in the unvalidated constructor -/
theorem getItem_col {X : PCol α} {rs : List (Row α)} (h : X.rows = rs) :
    (do pure (GetRes.col (← NArr.init X false)) : R (GetRes α)).map absGet = .ok (.inr rs) := by
  rw [(NArr.init_eq_ok (c := X) (v := false)).mpr ⟨rfl, nofun⟩, ← h, ← X.orEmptyChunk_rows]
  rfl

theorem getItem_refines (c : PCol α) (hw : c.WF = true) (k : Key) :
    (NArr.getItem c k).map absGet = Spec.getItem c.rows k := by
  cases k with
  | int i =>
    rw [NArr.getItem, Spec.getItem, PCol.rows_length]
    cases normPos c.len i <;> rfl
  | mask m =>
    rw [NArr.getItem, Spec.getItem, PCol.rows_length]
    refine map_ite_eq (fun _ => rfl) fun h1 => ?_
    by_cases h2 : m.length = 0
    · rw [if_pos h2, List.eq_nil_of_length_eq_zero h2]
      exact getItem_col rfl
    · rw [if_neg h2]
      exact getItem_col (PCol.filter_rows hw (Decidable.not_not.mp h1))
  | ints is =>
    rw [NArr.getItem, Spec.getItem, PCol.rows_length]
    by_cases h0 : is.length = 0
    · rw [if_pos h0, List.eq_nil_of_length_eq_zero h0]
      exact getItem_col rfl
    · rw [if_neg h0]
      refine map_ite_eq (fun _ => rfl) fun ha => ?_
      exact getItem_col ((PCol.take_rows hw).trans (map_pickRow_of_all_some ha))
  | slice a b st =>
    rw [NArr.getItem, Spec.getItem, PCol.rows_length]
    cases hs : sliceIndices c.len a b st with
    | error e => rfl
    | ok r =>
      obtain ⟨a', b', st'⟩ := r
      change Except.map absGet (if st' = 1 then _ else _) = Except.ok _
      by_cases h1 : st' = 1
      · subst h1
        have ⟨h0a, han, h0b, hbn⟩ := (sliceIndices_bounds_all hs).2.1 (by decide)
        obtain ⟨a', rfl⟩ := Int.eq_ofNat_of_zero_le h0a
        obtain ⟨b', rfl⟩ := Int.eq_ofNat_of_zero_le h0b
        rw [if_pos rfl, rangeList_step_one h0a h0b, List.map_map, Int.toNat_sub]
        exact getItem_col ((chunkedSlice_rows _ _ _).trans
          (drop_take_eq_map_getD c.rows a' (b' - a') none (by rw [PCol.rows_length]; omega)))
      · rw [if_neg h1]
        refine getItem_col ((PCol.take_rows hw).trans ?_)
        rw [List.map_map]
        exact List.map_congr_left fun i _ => pickRow_some c.rows i

end NP
