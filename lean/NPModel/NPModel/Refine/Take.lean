/-
  NPModel.Refine.Take — the operations that hand new storage to the constructor refine the list
  operations: `take` without and with `allow_fill`, `_concat_same_type`, `dropna` (C05).
-/
import NPModel.Refine.SetItem
namespace NP
variable {α : Type}

/-- a check that is a case of the next one, with the same error, can be left out -/
theorem ite_absorb {p q : Prop} [Decidable p] [Decidable q] {β : Type} {e x : β} (h : p → q) :
    (if p then e else if q then e else x) = if q then e else x := by
  by_cases hq : q
  · rw [if_pos hq, ite_self]
  · rw [if_neg hq, if_neg (mt h hq)]

/-- the one fresh chunk `take` hands to the constructor once its range checks have passed -/
def takeChunk (c : PCol α) (indices : List Int) (allowFill : Bool) (fill : Row α) : PStruct α :=
  match allowFill with
  | false => c.combine.take (indices.map (normPos c.len))
  | true =>
    if indices.any (· < 0) then
      fillMasked c.ty (indices.map (· < 0)) (boxScalar c.ty fill)
        (c.combine.take (indices.map fun i => if i < 0 then none else some i.toNat))
    else c.combine.take (indices.map fun i => some i.toNat)

/-- `take` in the shape of `Spec.take`: the range checks of the mode, then the constructor on one chunk -/
theorem NArr.take_eq (c : PCol α) (indices : List Int) (allowFill : Bool) (fill : Row α) :
    NArr.take c indices allowFill fill =
      if allowFill then
        if indices.any (fun i => i ≥ (c.len : Int)) then .error .indexError
        else if indices.any (· < -1) then .error .valueError
        else NArr.init { c with chunks := [takeChunk c indices true fill] }
      else
        if (indices.map (normPos c.len)).any Option.isNone then .error .indexError
        else NArr.init { c with chunks := [takeChunk c indices false fill] } := by
  unfold NArr.take
  simp only [Except.throw_eq, Except.error_bind]
  -- an empty column has no position `≥ 0`: the first range check is a case of the second
  have hsub : c.len = 0 ∧ indices.any (· ≥ 0) = true → indices.any (fun i => i ≥ (c.len : Int)) = true :=
    fun ⟨h0, h⟩ => any_imp (fun i hi => decide_eq_true (by have := of_decide_eq_true hi; omega)) h
  rw [ite_absorb hsub]
  cases allowFill with
  | false =>
    simp only [Bool.false_eq_true, if_false]
    -- and the second a case of the third: `normPos` refuses a position beyond the end
    have hsub' : indices.any (fun i => i ≥ (c.len : Int)) = true → (indices.map (normPos c.len)).any Option.isNone = true :=
      fun h => List.any_map ▸ any_imp (fun i hi =>
        Option.isNone_iff_eq_none.mpr (normPos_eq_none_iff.mpr (.inr (of_decide_eq_true hi)))) h
    rw [ite_absorb hsub']
    rfl
  | true =>
    simp only [if_true]
    refine ite_congr rfl (fun _ => rfl) fun _ => ?_
    by_cases hneg : indices.any (· < 0) = true
    · rw [if_neg (not_not_intro hneg), takeChunk, if_pos hneg]
    · -- no negative position, so none below `-1`
      have hlow : ¬ indices.any (· < -1) = true :=
        mt (any_imp fun i hi => decide_eq_true (by have := of_decide_eq_true hi; omega)) hneg
      rw [if_pos hneg, if_neg hlow, takeChunk, if_neg hneg]
      rfl

theorem NArr.take_inv {c c' : PCol α} {indices : List Int} {allowFill : Bool} {fill : Row α}
    (h : NArr.take c indices allowFill fill = .ok c') :
    c' = { c with chunks := [takeChunk c indices allowFill fill] } ∧ c'.validate = .ok () := by
  have hi : NArr.init { c with chunks := [takeChunk c indices allowFill fill] } = .ok c' := by
    rw [NArr.take_eq] at h
    cases allowFill
    · exact (Except.guard_eq_ok.mp h).2
    · exact (Except.guard_eq_ok.mp (Except.guard_eq_ok.mp h).2).2
  obtain ⟨rfl, hv⟩ := NArr.init_eq_ok.mp hi
  exact ⟨PCol.orEmptyChunk_of_ne (List.cons_ne_nil _ _), hv rfl⟩

theorem take_refines_nofill (c : PCol α) (hw : c.WF = true) (ha : c.aligned) (indices : List Int) (fill : Row α) :
    (NArr.take c indices false fill).map PCol.rows = Spec.take c.rows indices false fill := by
  rw [NArr.take_eq]
  unfold Spec.take
  simp only [PCol.rows_length, Bool.false_eq_true, if_false]
  refine map_ite_eq (fun _ => rfl) fun hnone => ?_
  exact (NArr.init_rows_ok (c.take _) _ fun _ => PCol.validate_iff.mp (PCol.take_validate c hw ha _)).trans
      (congrArg Except.ok ((PCol.take_rows hw).trans (map_pickRow_of_all_some hnone)))

theorem concat_refines (ty : List (String × String)) (cs : List (PCol α)) (hv : ∀ c ∈ cs, c.validate = .ok ())
    (hne : cs.flatMap (·.chunks) ≠ []) :
    (NArr.concat ty cs).map PCol.rows = .ok (Spec.concat (cs.map PCol.rows)) := by
  unfold NArr.concat
  rw [NArr.init_rows_ok _ true]
  · simp only [PCol.rows, Spec.concat, List.flatMap_def, List.map_flatten, List.flatten_flatten, List.map_map, Function.comp_def]
    rfl
  · intro _ s hs
    obtain ⟨c, hc, hsc⟩ := List.mem_flatMap.mp hs
    exact PCol.validate_iff.mp (hv c hc) s hsc

theorem PStruct.take_ty (s : PStruct α) (idx : List (Option Nat)) : (s.take idx).ty = s.ty := by
  simp [PStruct.take, PStruct.ty, Function.comp]

theorem PStruct.take_kid_rows_length {s : PStruct α} {idx : List (Option Nat)} :
    ∀ k ∈ (s.take idx).kids, k.list.rows.length = idx.length :=
  List.forall_mem_map.mpr fun _ _ => by simp [PList.take, PList.ofRows_rows, gather]

/-- the fill step of `take` on any aligned chunk of the dtype, for a fill table that is its own
    reading through the dtype and rectangular: validated, and the fill row where the mask is set -/
theorem fillMasked_some_spec (ty : List (String × String)) (mask : List Bool) (t : Table α) (res : PStruct α)
    (hnorm : normRow ty (some t) = some t) (hrect : Row.rect (some t) = true)
    (hty : res.ty = ty) (hlen : res.len = mask.length) (hkr : ∀ k ∈ res.kids, k.list.rows.length = mask.length)
    (hal : res.aligned) :
    (fillMasked ty mask (boxScalar ty (some t)) res).validate = .ok () ∧
    (fillMasked ty mask (boxScalar ty (some t)) res).rows = selectBy mask (List.replicate mask.length (some t)) res.rows := by
  show (PStruct.ifElse mask (PStruct.ofScalars ty (List.replicate mask.length (boxScalar ty (some t)))) res).validate = _ ∧
    (PStruct.ifElse mask (PStruct.ofScalars ty (List.replicate mask.length (boxScalar ty (some t)))) res).rows = _
  have hu : ∀ x ∈ List.replicate mask.length (boxScalar ty (some t)), unboxScalar ty x = some t := by
    intro x hx
    rw [List.eq_of_mem_replicate hx, unbox_box, hnorm]
  have ⟨hkl, hnn⟩ := ofScalars_lineup (List.replicate mask.length (boxScalar ty (some t)))
    List.length_replicate hty hkr
  refine ⟨PStruct.ifElse_validate (PStruct.ofScalars_aligned fun x hx => by rw [hu x hx]; exact hrect) hal, ?_⟩
  rw [PStruct.ifElse_rows _ _ _ (by rw [PStruct.ofScalars_len, List.length_replicate]) hlen hkl hnn,
    PStruct.ofScalars_rows, List.map_congr_left hu, List.map_const', List.length_replicate]

theorem takeChunk_fill {c : PCol α} (hw : c.WF = true) (ha : c.aligned) (indices : List Int) {fill : Row α}
    (hfill : Spec.conformRow c.ty fill = some fill) :
    (takeChunk c indices true fill).validate = .ok () ∧
    (takeChunk c indices true fill).rows = indices.map fun i => if i < 0 then fill else c.rows.getD i.toNat none := by
  have hal := PCol.combine_aligned hw ha
  have hgather : ∀ f : Int → Option Nat,
      (c.combine.take (indices.map f)).rows = indices.map fun i => pickRow c.rows (f i) := fun f =>
    PCol.rows_single.symm.trans ((PCol.take_rows hw).trans (List.map_map ..))
  rw [takeChunk]
  by_cases hneg : indices.any (· < 0) = true
  · rw [if_pos hneg]
    cases fill with
    | none =>
      refine ⟨PStruct.take_validate hal _, (hgather _).trans (List.map_congr_left fun i _ => ?_)⟩
      by_cases hi : i < 0 <;> simp only [hi, if_true, if_false, pickRow_some]; rfl
    | some t =>
      -- a fill row that conforms to the dtype is its own reading through the dtype, and rectangular
      rw [conformRow_eq] at hfill
      have ⟨hrect, hnorm⟩ := Option.ite_none_right_eq_some.mp hfill
      replace hnorm := Option.some.inj hnorm
      have ⟨hv, hr⟩ := fillMasked_some_spec c.ty (indices.map (decide <| · < 0)) t
        (c.combine.take (indices.map fun i => if i < 0 then none else some i.toNat)) hnorm (hnorm ▸ hrect)
        (by rw [PStruct.take_ty, PCol.combine_ty]) (by rw [PStruct.take_len, List.length_map, List.length_map])
        (fun k hk => by rw [PStruct.take_kid_rows_length k hk, List.length_map, List.length_map])
        (PStruct.take_aligned hal _)
      refine ⟨hv, ?_⟩
      rw [hr, hgather, List.length_map, ← List.map_const', selectBy_map]
      apply List.map_congr_left
      intro i _
      by_cases hi : i < 0 <;>
        simp only [hi, decide_true, decide_false, if_true, if_false, pickRow_some, Bool.false_eq_true]
  · rw [if_neg hneg]
    refine ⟨PStruct.take_validate hal _, (hgather _).trans (List.map_congr_left fun i hi => ?_)⟩
    rw [if_neg fun h => hneg (List.any_eq_true.mpr ⟨i, hi, by simpa using h⟩), pickRow_some]

/-- **`take` with `allow_fill=True`** refines list `take` with a fill row: `-1` positions become
    the fill value, other negatives are a ValueError, positions beyond the end an IndexError; for
    every validated column in any layout and every fill row that conforms to the dtype (missing,
    or a rectangular table with the dtype's fields). -/
theorem take_refines_fill (c : PCol α) (hw : c.WF = true) (ha : c.aligned) (indices : List Int) (fill : Row α)
    (hfill : Spec.conformRow c.ty fill = some fill) :
    (NArr.take c indices true fill).map PCol.rows = Spec.take c.rows indices true fill := by
  rw [NArr.take_eq]
  unfold Spec.take
  simp only [PCol.rows_length, if_true]
  refine map_ite_eq (fun _ => rfl) fun _ => map_ite_eq (fun _ => rfl) fun _ => ?_
  have ⟨hv, hr⟩ := takeChunk_fill hw ha indices hfill
  rw [NArr.init_rows_ok _ _ fun _ _ hs => List.mem_singleton.mp hs ▸ hv, PCol.rows_single, hr]
  rfl

theorem PStruct.valid_eq_isSome (s : PStruct α) : s.valid = s.rows.map Option.isSome := by
  apply List.ext_getElem?
  intro i
  rw [List.getElem?_map, PStruct.rows_getElem?]
  rcases s.valid[i]? with _ | _ | _ <;> rfl

theorem PStruct.dropNull_rows {s : PStruct α} (hw : s.WF = true) :
    (s.filter s.valid).rows = s.rows.filter Option.isSome := by
  rw [PStruct.filter_rows hw s.valid rfl, ← filterBy_eq_filter, ← PStruct.valid_eq_isSome]

/-- **`dropna` drops exactly the missing rows** — on validated storage in any layout (every chunk
    filtered by its own validity; a column left without chunks gets one empty chunk). -/
theorem dropna_refines (c : PCol α) (hw : c.WF = true) (ha : c.aligned) :
    (NArr.dropna c).map PCol.rows = .ok (Spec.dropna c.rows) := by
  have hch := PCol.WF_iff.mp hw
  unfold NArr.dropna Spec.dropna
  rw [NArr.init_rows_ok _ true]
  · simp only [PCol.rows, List.flatMap_map, List.filter_flatMap]
    exact congrArg Except.ok (flatMap_congr fun s hs => PStruct.dropNull_rows (hch s hs).1)
  · intro _ s' hs'
    obtain ⟨s, hs, rfl⟩ := List.mem_map.mp hs'
    rw [PStruct.filter_eq_take (hch s hs).1 rfl]
    exact PStruct.take_validate (ha s hs) _

end NP
