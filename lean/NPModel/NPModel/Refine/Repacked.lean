/-
  `_set_filtered_flat_df` at the level of rows: a flat table indexed by row ordinals (what query,
  dropna and sort_values on a nested layer produce) is packed by label (`packSortedDf_groups`) and
  every ordinal is looked up among the packed labels (`take_by_label`), so a row that keeps no
  record becomes missing.  Filtering row by row (`filterRowsBy`) is in `Runs`; `filter_then_repack` here
  is its frame-level use.
-/
import NPModel.Refine.PackSorted
import NPModel.Refine.Take
import NPModel.Impl.Frame
namespace NP
variable {α : Type}

/-- the ordinal index `[0,0,0,1,1,3,…]` of rows with the given record counts, from ordinal `s` -/
def ordIndex : Nat → List Nat → List Label
  | _, [] => []
  | s, n :: ns => List.replicate n (Label.int (s : Int)) ++ ordIndex (s + 1) ns

theorem ordIndex_ge (s : Nat) (lens : List Nat) : ∀ x ∈ ordIndex s lens, ∃ i : Nat, x = Label.int (i : Int) ∧ s ≤ i := by
  induction lens generalizing s with
  | nil => exact fun _ hx => nomatch hx
  | cons n ns ih =>
    intro x hx
    rcases List.mem_append.mp hx with hx | hx
    · exact ⟨s, List.eq_of_mem_replicate hx, Nat.le_refl _⟩
    · obtain ⟨i, hi, hle⟩ := ih (s + 1) x hx
      exact ⟨i, hi, Nat.le_of_succ_le hle⟩

theorem ordIndex_pairwise (s : Nat) (lens : List Nat) : (ordIndex s lens).Pairwise (fun a b => a.le b = true) := by
  induction lens generalizing s with
  | nil => exact List.Pairwise.nil
  | cons n ns ih =>
    refine List.pairwise_append.mpr ⟨List.pairwise_replicate.mpr (.inr ?_), ih (s + 1), fun a ha b hb => ?_⟩
    · exact decide_eq_true (Int.le_refl _)
    · obtain ⟨i, rfl, hle⟩ := ordIndex_ge (s + 1) ns b hb
      rw [List.eq_of_mem_replicate ha]
      exact decide_eq_true (Int.ofNat_le.mpr (Nat.le_of_succ_le hle))

theorem ordIndex_length (s : Nat) (lens : List Nat) : (ordIndex s lens).length = sumNat lens := by
  induction lens generalizing s with
  | nil => rfl
  | cons n ns ih => rw [ordIndex, List.length_append, List.length_replicate, ih, sumNat_cons]

theorem not_mem_ordIndex_succ (s : Nat) (lens : List Nat) : Label.int ((s : Nat) : Int) ∉ ordIndex (s + 1) lens := by
  intro h
  obtain ⟨j, hj, hle⟩ := ordIndex_ge _ _ _ h
  simp only [Label.int.injEq] at hj
  omega

theorem mem_ordIndex (s : Nat) (lens : List Nat) (i : Nat) :
    Label.int ((s + i : Nat) : Int) ∈ ordIndex s lens ↔ lens.getD i 0 ≠ 0 := by
  induction lens generalizing s i with
  | nil => exact ⟨fun h => (nomatch h), fun h => absurd rfl h⟩
  | cons n ns ih =>
    rw [ordIndex, List.mem_append, List.mem_replicate]
    cases i with
    | zero => exact ⟨fun h => h.elim (·.1) fun h => absurd h (not_mem_ordIndex_succ s ns), fun h => .inl ⟨h, rfl⟩⟩
    | succ i =>
      have hne : Label.int ((s + (i + 1) : Nat) : Int) ≠ Label.int ((s : Nat) : Int) := fun e => by
        injection e with e
        omega
      rw [List.getD_cons_succ, ← ih (s + 1) i, Nat.add_assoc, Nat.add_comm 1]
      exact ⟨fun h => h.elim (fun h => absurd h.2 hne) id, .inr⟩

theorem valsOfLabel_ordIndex {β : Type} (s : Nat) (lists : List (List β)) (i : Nat) :
    valsOfLabel (Label.int ((s + i : Nat) : Int)) (ordIndex s (lists.map List.length)) lists.flatten = lists.getD i [] := by
  induction lists generalizing s i with
  | nil => rfl
  | cons l ls ih =>
    rw [List.map_cons, ordIndex, List.flatten_cons, valsOfLabel_append List.length_replicate]
    cases i with
    | zero =>
      rw [Nat.add_zero, valsOfLabel_replicate_self, valsOfLabel_eq_nil (not_mem_ordIndex_succ s _), List.append_nil]
      rfl
    | succ i =>
      rw [valsOfLabel_replicate_other (fun e => by injection e with e; omega), List.nil_append,
        List.getD_cons_succ, ← ih (s + 1) i, Nat.add_assoc, Nat.add_comm 1]

theorem labelPos_cases (keys : List Label) (l : Label) :
    (l ∉ keys ∧ labelPos keys l = -1) ∨ ∃ p : Nat, keys[p]? = some l ∧ labelPos keys l = (p : Int) := by
  unfold labelPos
  cases hf : keys.findIdx? (· == l) with
  | none => exact .inl ⟨fun h => by simpa using List.findIdx?_eq_none_iff.mp hf l h, rfl⟩
  | some p =>
    have ⟨hp, heq, _⟩ := List.findIdx?_eq_some_iff_getElem.mp hf
    exact .inr ⟨p, by rw [List.getElem?_eq_getElem hp, beq_iff_eq.mp heq], rfl⟩

theorem labelPos_range (keys : List Label) (l : Label) : -1 ≤ labelPos keys l ∧ labelPos keys l < (keys.length : Int) := by
  rcases labelPos_cases keys l with ⟨_, h⟩ | ⟨p, hp, h⟩
  · omega
  · have := (List.getElem?_eq_some_iff.mp hp).1
    omega

theorem labelPos_nonneg_iff {keys : List Label} {l : Label} : (labelPos keys l ≥ 0) ↔ l ∈ keys := by
  rcases labelPos_cases keys l with ⟨hn, h⟩ | ⟨p, hp, h⟩
  · exact ⟨fun hh => by omega, fun hh => absurd hh hn⟩
  · exact ⟨fun _ => List.mem_of_getElem? hp, fun _ => by omega⟩

theorem take_fill_rows {c : PCol α} (hw : c.WF = true) (ha : c.aligned) (idx : List Int)
    (h : ∀ i ∈ idx, -1 ≤ i ∧ i < (c.rows.length : Int)) :
    ∃ col, NArr.take c idx true none = .ok col ∧
      col.rows = idx.map fun i => if i < 0 then none else c.rows.getD i.toNat none := by
  have h1 : idx.any (fun i => decide (i ≥ (c.rows.length : Int))) = false :=
    List.any_eq_false.mpr fun i hi => by have := (h i hi).2; simp only [ge_iff_le, decide_eq_true_eq]; omega
  have h2 : idx.any (fun i => decide (i < -1)) = false :=
    List.any_eq_false.mpr fun i hi => by have := (h i hi).1; simp only [decide_eq_true_eq]; omega
  have htake := take_refines_fill c hw ha idx none rfl
  simp only [Spec.take, if_true, h1, h2, Bool.false_eq_true, if_false, Except.pure_eq] at htake
  exact Except.map_eq_ok.mp htake

/-- **Looking labels up in a packed column** (`Index.get_indexer` + `take(allow_fill=True)`): the
    label that has a row gets it, any other label gets a missing row.  (The first position wins,
    so the keys need not be distinct.) -/
theorem take_by_label {c : PCol α} (hw : c.WF = true) (ha : c.aligned) {keys : List Label} {row : Label → Row α}
    (hrows : c.rows = keys.map row) (want : List Label) :
    ∃ col, NArr.take c (want.map (labelPos keys)) true none = .ok col ∧
      col.rows = want.map fun l => if l ∈ keys then row l else none := by
  obtain ⟨col, hcol, hcr⟩ := take_fill_rows hw ha (want.map (labelPos keys)) (List.forall_mem_map.mpr fun l _ => by
    rw [hrows, List.length_map]
    exact labelPos_range keys l)
  refine ⟨col, hcol, ?_⟩
  rw [hcr, List.map_map]
  refine List.map_congr_left fun l _ => ?_
  rcases labelPos_cases keys l with ⟨hl, he⟩ | ⟨p, hget, he⟩
  · rw [Function.comp, he, if_neg hl]
    rfl
  · rw [Function.comp, he, if_neg (Int.not_lt.mpr (Int.natCast_nonneg p)), if_pos (List.mem_of_getElem? hget), hrows,
      Int.toNat_natCast, List.getD_eq_getElem?_getD, List.getElem?_map, hget]
    rfl

/-- the alignment of `_set_filtered_flat_df`, with or without its shortcut for an index that is
    already the wanted one -/
theorem align_by_label {c : PCol α} (hw : c.WF = true) (ha : c.aligned) {keys : List Label} {row : Label → Row α}
    (hrows : c.rows = keys.map row) (want : List Label) :
    ∃ col, (if keys == want then pure c else NArr.take c (want.map (labelPos keys)) true none) = .ok col ∧
      col.rows = want.map fun l => if l ∈ keys then row l else none := by
  by_cases hall : (keys == want) = true
  · refine ⟨c, if_pos hall, ?_⟩
    rw [hrows, ← beq_iff_eq.mp hall]
    exact List.map_congr_left fun l hl => (if_pos hl).symm
  · rw [if_neg hall]
    exact take_by_label hw ha hrows want

theorem ordinalIndexer_eq (index : List Label) (n : Nat) :
    ordinalIndexer index n = ((List.range n).map fun (i : Nat) => Label.int (i : Int)).map (labelPos index) := by
  simp only [ordinalIndexer, List.map_map]
  rfl

/-- **`_set_filtered_flat_df` groups the records by ordinal**: row `i` of the frame's nested column
    holds, for every field at once, the records labelled `i`, in order, and is missing when there
    is none. -/
theorem setFilteredFlatDf_groups (F : NFrame α) (nest : String) (flat : FlatDF α) (hm : isMonotone flat.index = true)
    (hc : ∀ c ∈ flat.cols, c.2.2.length = flat.index.length) (hne : flat.cols ≠ []) :
    ∃ col, F.setFilteredFlatDf nest flat = .ok (F.setCol nest (.nest col)) ∧
      col.rows = (List.range F.index.length).map fun (i : Nat) =>
        if Label.int (i : Int) ∈ flat.index then
          some (flat.cols.map fun c => (c.1, valsOfLabel (Label.int (i : Int)) flat.index c.2.2))
        else none := by
  obtain ⟨packed, hpk, hindex, hclean, _, _, hrows⟩ := packSortedDf_groups flat hm hc hne
  rw [← hindex] at hrows
  obtain ⟨col, hcol, hcr⟩ := align_by_label hclean.wf hclean.aligned hrows
    ((List.range F.index.length).map fun (i : Nat) => Label.int (i : Int))
  refine ⟨col, ?_, ?_⟩
  · simp only [NFrame.setFilteredFlatDf, exc, ordinalIndexer_eq]
    exact ⟨packed, hpk, col, hcol, rfl⟩
  · simp only [hcr, hindex, List.map_map, mem_firstLabels]
    rfl

theorem Spec.toFlat_none (index : List Label) (c : LCol α) (hty : c.ty ≠ []) :
    Spec.toFlat index c none = .ok
      { index := Spec.flatIndex index c.rows
        cols := c.ty.map fun p => (p.1, ((c.ty.find? (·.1 == p.1)).map (·.2)).getD "", Spec.flatField c.rows p.1) } := by
  have hne : (c.ty.map (·.1)).isEmpty = false := by
    rw [List.isEmpty_eq_false_iff]
    exact fun h => hty (List.map_eq_nil_iff.mp h)
  have hall : (c.ty.map (·.1)).all (fun f => c.ty.any (·.1 == f)) = true := by
    rw [List.all_eq_true]
    intro f hf
    obtain ⟨p, hp, rfl⟩ := List.mem_map.mp hf
    exact List.any_eq_true.mpr ⟨p, hp, beq_self_eq_true _⟩
  simp only [Spec.toFlat, Option.getD_none, hne, hall, Bool.false_eq_true, if_false, not_true_eq_false,
    Except.pure_eq, List.map_map]
  rfl

/-- the flat table (ordinal index) of column-major per-row lists -/
def ordFlat (cols : List (String × String × List (List α))) (lens : List Nat) : FlatDF α :=
  { index := ordIndex 0 lens, cols := cols.map fun c => (c.1, c.2.1, c.2.2.flatten) }

/-- what the rows of the frame's nest become: a row that keeps no record is missing -/
def repackedRows (cols : List (String × String × List (List α))) (lens : List Nat) : List (Row α) :=
  (List.range lens.length).map fun i =>
    if lens.getD i 0 = 0 then none else some (cols.map fun c => (c.1, c.2.2.getD i []))

@[simp] theorem repackedRows_length (cols : List (String × String × List (List α))) (lens : List Nat) :
    (repackedRows cols lens).length = lens.length := by
  rw [repackedRows, List.length_map, List.length_range]

theorem repackedRows_getD {cols : List (String × String × List (List α))} {lens : List Nat} {i : Nat}
    (hi : i < lens.length) :
    (repackedRows cols lens).getD i none =
      if lens.getD i 0 = 0 then none else some (cols.map fun c => (c.1, c.2.2.getD i [])) := by
  rw [repackedRows, List.getD_eq_getElem?_getD, List.getElem?_map, List.getElem?_range hi]
  rfl

/-- The common last step of `query`, `dropna` and `sort_values` on a nested layer: the flat table
    holds, for every row, the records it keeps (column-major per-row lists of common lengths `lens`). -/
theorem setFilteredFlatDf_rows {F : NFrame α} (nest : String) {cols : List (String × String × List (List α))}
    {lens : List Nat} (hn : lens.length = F.index.length) (hcols : ∀ c ∈ cols, c.2.2.map List.length = lens)
    (hne : cols ≠ []) :
    ∃ col, F.setFilteredFlatDf nest (ordFlat cols lens) = .ok (F.setCol nest (.nest col)) ∧
      col.rows = repackedRows cols lens ∧ col.rows.length = F.index.length := by
  obtain ⟨col, hcol, hcr⟩ := setFilteredFlatDf_groups F nest (ordFlat cols lens)
    (isMonotone_iff_pairwise.mpr (ordIndex_pairwise 0 lens))
    (List.forall_mem_map.mpr fun c hc => show c.2.2.flatten.length = (ordIndex 0 lens).length by
      rw [length_flatten_sumNat, hcols c hc, ordIndex_length])
    (fun h => hne (List.map_eq_nil_iff.mp h))
  refine ⟨col, hcol, ?_, by rw [hcr, List.length_map, List.length_range]⟩
  rw [hcr, ← hn]
  apply List.map_congr_left
  intro i _
  have hmem := mem_ordIndex 0 lens i
  rw [Nat.zero_add] at hmem
  simp only [ordFlat, hmem, ne_eq, ite_not, List.map_map]
  refine congrArg (fun r => if lens.getD i 0 = 0 then none else some r)
    (List.map_congr_left fun c hc => congrArg (Prod.mk c.1) ?_)
  have := valsOfLabel_ordIndex 0 c.2.2 i
  rwa [Nat.zero_add, hcols c hc] at this

theorem filterBy_ordIndex (s : Nat) {masks : List (List Bool)} {lens : List Nat}
    (h : All2 (fun m n => m.length = n) masks lens) :
    filterBy masks.flatten (ordIndex s lens) = ordIndex s (masks.map fun m => (m.filter id).length) := by
  induction h generalizing s with
  | nil => rfl
  | cons h _ ih =>
    rw [List.flatten_cons, ordIndex, List.map_cons, ordIndex, filterBy_append (by rw [List.length_replicate, h]),
      ih, ← h, filterBy_replicate]

theorem filterRowsBy_lengths {masks : List (List Bool)} {lists : List (List α)}
    (h : All2 (fun m l => m.length = l.length) masks lists) :
    (filterRowsBy masks lists).map List.length = masks.map fun m => (m.filter id).length := by
  induction h with
  | nil => rfl
  | cons h _ ih =>
    rw [List.map_cons, ← ih, filterRowsBy, filterRowsBy, List.zipWith_cons_cons, List.map_cons, filterBy_length h]

theorem All2.of_map_length {masks : List (List Bool)} {lens : List Nat} {lists : List (List α)}
    (hm : All2 (fun m n => m.length = n) masks lens) (hl : lists.map List.length = lens) :
    All2 (fun m l => m.length = l.length) masks lists := by
  subst hl
  have ⟨hlen, h⟩ := All2.iff_getElem?.mp hm
  exact All2.iff_getElem?.mpr ⟨by simpa using hlen, fun i m l hmi hli => h i m l.length hmi (by simp [hli])⟩

theorem filterRows_ordFlat {cols : List (String × String × List (List α))} {lens : List Nat} {masks : List (List Bool)}
    (hcols : ∀ c ∈ cols, c.2.2.map List.length = lens) (hmasks : All2 (fun m n => m.length = n) masks lens) :
    (ordFlat cols lens).filterRows masks.flatten =
      ordFlat (cols.map fun c => (c.1, c.2.1, filterRowsBy masks c.2.2)) (masks.map fun m => (m.filter id).length) := by
  unfold FlatDF.filterRows ordFlat
  rw [FlatDF.mk.injEq, List.map_map, List.map_map]
  refine ⟨filterBy_ordIndex 0 hmasks, List.map_congr_left fun c hc => ?_⟩
  show (c.1, c.2.1, filterBy masks.flatten c.2.2.flatten) = _
  rw [filterBy_flatten (All2.of_map_length hmasks (hcols c hc))]
  rfl

/-- Filter the flat view with any per-record mask (`masks`: its outcomes row by row), re-pack,
    align: filtering inside every row. -/
theorem filter_then_repack {F : NFrame α} (nest : String) {cols : List (String × String × List (List α))}
    {lens : List Nat} {masks : List (List Bool)}
    (hn : lens.length = F.index.length) (hcols : ∀ c ∈ cols, c.2.2.map List.length = lens)
    (hmasks : All2 (fun m n => m.length = n) masks lens) (hne : cols ≠ []) :
    ∃ col, F.setFilteredFlatDf nest ((ordFlat cols lens).filterRows masks.flatten) = .ok (F.setCol nest (.nest col)) ∧
      col.rows = repackedRows (cols.map fun c => (c.1, c.2.1, filterRowsBy masks c.2.2))
        (masks.map fun m => (m.filter id).length) ∧ col.rows.length = F.index.length := by
  rw [filterRows_ordFlat hcols hmasks]
  refine setFilteredFlatDf_rows nest ?_ ?_ fun h => hne (List.map_eq_nil_iff.mp h)
  · rw [List.length_map, hmasks.length_eq, hn]
  · exact List.forall_mem_map.mpr fun c hc =>
      filterRowsBy_lengths (All2.of_map_length hmasks (hcols c hc))

end NP
