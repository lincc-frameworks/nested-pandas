/-
  NPModel.Spec.Frame — per-row specifications of the frame-level operations (C07, C09-C13):
  what the property statements say, as functions/relations on plain lists of rows.
  They are the oracles the driver evaluates on the real outputs; the theorems of these
  properties describe the rows directly (`repackedRows`, `packedRow`, `filterRowsBy` …,
  defined in `Refine/`) and mention only `Table.nrec` and `filterRow` of this file.
-/
import NPModel.Impl.Frame
import NPModel.Spec.Ops
namespace NP
namespace Spec
variable {α : Type}

/-- record `j` of a table: one cell per field -/
def Table.recordAt (t : Table α) (j : Nat) : List (String × Option α) := t.map fun (n, l) => (n, l[j]?)

def Table.nrec (t : Table α) : Nat := match t with | [] => 0 | (_, l) :: _ => l.length

/-- keep the records selected by `keep j`; a row left with no record becomes missing -/
def filterRow (keep : Table α → Nat → Bool) : Row α → Row α
  | none => none
  | some t =>
    let m := (List.range (Table.nrec t)).map (keep t)
    if m.any id then some (t.map fun (n, l) => (n, filterBy m l)) else none

/-- C07 / C12: filter inside every row, rows/labels/order untouched -/
def filterNested (keep : Table α → Nat → Bool) (rows : List (Row α)) : List (Row α) := rows.map (filterRow keep)

def queryKeep (nest : String) (e : Expr) (t : Table Cell) (j : Nat) : Bool :=
  let look : Option String → String → Option Cell
    | some l, n => if l == nest then (t.find? (·.1 == n)).map fun p => (p.2[j]?).join else none
    | none, _ => none
  match e.eval look with
  | .ok (some (.bool true)) => true
  | _ => false

def dropnaKeep (isNull : α → Bool) (how : How) (thresh : Option Nat) (subset : Option (List String))
    (t : Table α) (j : Nat) : Bool :=
  let cols := match subset with
    | none => t
    | some fs => fs.filterMap fun f => t.find? (·.1 == f)
  keepRecord isNull how thresh (cols.filterMap fun p => p.2[j]?)

/-- C13: an expression over one nest, element for element on the flat view -/
def evalFlat (nest : String) (e : Expr) (rows : List (Row Cell)) : Except EvalErr (List Cell) :=
  (rows.flatMap fun r => match r with
    | none => []
    | some t => (List.range (Table.nrec t)).map fun j => (t, j)).mapM fun (t, j) =>
      let look : Option String → String → Option Cell
        | some l, n => if l == nest then (t.find? (·.1 == n)).map fun p => (p.2[j]?).join else none
        | none, _ => none
      e.eval look

/-- the records of a table, one list of cells per record (`none` where a column is too short) -/
def recordsOf (t : Table α) : List (List (Option α)) :=
  (List.range (Table.nrec t)).map fun j => t.map fun p => p.2[j]?

def countOf [DecidableEq α] (x : List (Option α)) (l : List (List (Option α))) : Nat := (l.filter (· == x)).length

def isPermOf [DecidableEq α] (a b : List (List (Option α))) : Bool :=
  a.length == b.length && a.all fun x => countOf x a == countOf x b

def sortedBy (lt : α → α → Bool) (isNull : Option α → Bool) (keys : List (String × Bool)) (naFirst : Bool)
    (t : Table α) : Bool :=
  let n := Table.nrec t
  (List.range (n - 1)).all fun j =>
    lexLe (fun a b => match a, b with | some x, some y => lt x y | _, _ => false) isNull naFirst
      (keys.map fun (f, asc) =>
        let col := ((t.find? (·.1 == f)).map (·.2)).getD []
        (asc, col[j]?, col[j+1]?))

/-- C11 as a relation on one row: same records as a multiset (whole records move together),
    ordered by the keys; a row without records may come back missing or empty -/
def sortRowOk [DecidableEq α] (lt : α → α → Bool) (isNull : Option α → Bool) (keys : List (String × Bool))
    (naFirst : Bool) (before after : Row α) : Bool :=
  match before, after with
  | none, none => true
  | none, some _ => false
  | some t, none => Table.nrec t == 0
  | some t, some t' =>
    t.map (·.1) == t'.map (·.1) && isPermOf (recordsOf t) (recordsOf t') && sortedBy lt isNull keys naFirst t'

/-- C09, left join on the index: every base row gets the records carrying its label, in their
    original relative order; a missing value when there are none -/
def nestByLabel (index : List Label) (flat : FlatDF α) : List (Row α) :=
  index.map fun l =>
    let keep := flat.index.map (· == l)
    if keep.any id then some (flat.cols.map fun (n, _, v) => (n, filterBy keep v)) else none

end Spec
end NP
