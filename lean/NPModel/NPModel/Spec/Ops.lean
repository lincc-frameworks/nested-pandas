/-
  NPModel.Spec.Ops — logical specification of the column-level operations: what each
  operation means on a plain list of rows.  These are the shortest definitions that
  express the property statements, and the driver evaluates them on the real outputs.
  The theorems of NPModel.Props are stated against the observers, `getItem`, `take`,
  `setItem`, `concat`, `dropna` and `toFlat`; the field edits (`setListField` …
  `popFields`) are oracles of the driver only: C06 describes their rows directly
  (`Table.upsert`, `Row.without`, `Row.select`).
-/
import NPModel.Impl.Accessor
namespace NP
variable {α : Type}

/-- A logical nested column: declared fields and the list of rows. -/
structure LCol (α : Type) where
  ty   : List (String × String)
  rows : List (Row α)
  deriving Repr, DecidableEq

def PCol.abs (c : PCol α) : LCol α := { ty := c.ty, rows := c.rows }

namespace Spec

def lens (rows : List (Row α)) : List Nat := rows.map Row.len

/-- C03 summary quantities as functions of the rows. -/
def flatLength (rows : List (Row α)) : Nat := sumNat (lens rows)
def isna (rows : List (Row α)) : List Bool := rows.map Option.isNone
def listIndex (rows : List (Row α)) : List Nat := repeatEach (List.range rows.length) (lens rows)
def flatIndex (index : List Label) (rows : List (Row α)) : List Label := repeatEach index (lens rows)

/-- the lists of field `f`, row by row (missing ⇒ no elements). -/
def fieldLists (rows : List (Row α)) (f : String) : List (List α) :=
  rows.map fun r => match r with
    | none => []
    | some t => ((t.find? (·.1 == f)).map (·.2)).getD []

def flatField (rows : List (Row α)) (f : String) : List α := (fieldLists rows f).flatten

def toFlat (index : List Label) (c : LCol α) (fields : Option (List String)) : R (FlatDF α) :=
  let fs := fields.getD (c.ty.map (·.1))
  if fs.isEmpty then .error .valueError
  else if ¬ fs.all (fun f => c.ty.any (·.1 == f)) then .error .keyError
  else pure { index := flatIndex index c.rows
              cols := fs.map fun f => (f, ((c.ty.find? (·.1 == f)).map (·.2)).getD "", flatField c.rows f) }

/-- sequence semantics (C05) -/
def getItem (rows : List (Row α)) (k : Key) : R (Sum (Row α) (List (Row α))) :=
  let n := rows.length
  match k with
  | .int i => match normPos n i with
    | none => .error .indexError
    | some j => pure (.inl (rows.getD j none))
  | .slice a b st => do
    let (a', b', st') ← sliceIndices n a b st
    pure (.inr ((rangeList a' b' st').map fun i => rows.getD i none))
  | .mask m => if m.length ≠ n then .error .indexError else pure (.inr (filterBy m rows))
  | .ints is =>
    let idx := is.map (normPos n)
    if idx.any Option.isNone then .error .indexError
    else pure (.inr (idx.map fun o => rows.getD (o.getD 0) none))

def take (rows : List (Row α)) (indices : List Int) (allowFill : Bool) (fill : Row α) : R (List (Row α)) :=
  let n := rows.length
  if allowFill then
    if indices.any (fun i => i ≥ (n : Int)) then .error .indexError
    else if indices.any (· < -1) then .error .valueError
    else pure (indices.map fun i => if i < 0 then fill else rows.getD i.toNat none)
  else
    let idx := indices.map (normPos n)
    if idx.any Option.isNone then .error .indexError
    else pure (idx.map fun o => rows.getD (o.getD 0) none)

/-- A table offered as a value for a column of type `ty`: its fields in dtype order.
    Refused (none) when ragged or when a field is absent while others hold elements. -/
def conformRow (ty : List (String × String)) (r : Row α) : Option (Row α) :=
  match r with
  | none => some none
  | some t =>
    let t' : Table α := ty.map fun (n, _) => (n, ((t.find? (·.1 == n)).map (·.2)).getD [])
    if Table.rect t' then some (some t') else none

/-- positions selected by a key, in key order. -/
def keyPositions (n : Nat) (k : Key) : R (List Nat) :=
  match k with
  | .int i => match normPos n i with
    | none => .error .indexError
    | some j => pure [j]
  | .slice a b st => do
    let (a', b', st') ← sliceIndices n a b st
    pure (rangeList a' b' st')
  | .mask m => if m.length ≠ n then .error .indexError else pure (nonzeroFrom 0 m)
  | .ints is =>
    let idx := is.map (normPos n)
    if idx.any Option.isNone then .error .indexError else pure (idx.filterMap id)

/-- the values offered: a scalar goes to every target -/
def setVals (n : Nat) (v : SetVal α) : List (Row α) :=
  match v with
  | .scalar r => List.replicate n r
  | .array rs => rs

/-- `rows[p] = vals` for the non-empty target positions `ps` (in key order), values matched to the
    targets in key order. Ragged values are refused and nothing is stored. -/
def assignVals (ty : List (String × String)) (rows : List (Row α)) (ps : List Nat) (vals : List (Row α)) :
    R (List (Row α)) := do
  if vals.length < ps.length then throw .indexError
  let conf := vals.map (conformRow ty)
  if (conf.take ps.length).any Option.isNone then throw .valueError
  let assign := List.zip ps (conf.map fun o => o.getD none)
  pure ((List.range rows.length).map fun i =>
    match assign.find? (·.1 == i) with
    | some (_, r) => r
    | none => rows.getD i none)

/-- `rows[p] = v` for the target positions `ps`; no target, no change. -/
def assignAt (ty : List (String × String)) (rows : List (Row α)) (ps : List Nat) (v : SetVal α) : R (List (Row α)) :=
  if ps.isEmpty then pure rows else assignVals ty rows ps (setVals ps.length v)

/-- `rows[k] = v` for distinct target positions. -/
def setItem (ty : List (String × String)) (rows : List (Row α)) (k : Key) (v : SetVal α) : R (List (Row α)) := do
  let ps ← keyPositions rows.length k
  assignAt ty rows ps v

def concat (cs : List (List (Row α))) : List (Row α) := cs.flatten
def dropna (rows : List (Row α)) : List (Row α) := rows.filter Option.isSome

/-! field edits (C06) -/

def Table.upsert (t : Table α) (f : String) (l : List α) : Table α :=
  if t.any (·.1 == f) then t.map fun p => if p.1 == f then (f, l) else p else t ++ [(f, l)]

def tyUpsert (ty : List (String × String)) (f t : String) : List (String × String) :=
  if ty.any (·.1 == f) then ty.map fun p => if p.1 == f then (f, t) else p else ty ++ [(f, t)]

/-- set field `f` from one list per row; the list of a row must have the row's length
    (a missing row takes no elements). -/
def setListField (c : LCol α) (f t : String) (lists : List (Option (List α))) (keep : Bool) : R (LCol α) :=
  if keep ∧ ¬ c.ty.any (·.1 == f) then .error .valueError
  else if lists.length ≠ c.rows.length then .error .valueError
  else if ¬ c.ty.all (·.1 == f) ∧
          (List.zip c.rows lists).any (fun (r, l) => (l.getD []).length ≠ r.len) then .error .valueError
  else pure { ty := tyUpsert c.ty f t
              rows := List.zipWith (fun r l => r.map fun tb => Table.upsert tb f (l.getD [])) c.rows lists }

/-- split a flat array by the rows' lengths. -/
def splitBy : List Nat → List α → List (List α)
  | [], _ => []
  | n :: ns, xs => xs.take n :: splitBy ns (xs.drop n)

def setFlatField (c : LCol α) (f t : String) (v : FlatVal α) (keep : Bool) : R (LCol α) :=
  if keep ∧ ¬ c.ty.any (·.1 == f) then .error .valueError
  else
    let fl := flatLength c.rows
    let xs := match v with | .scalar x => List.replicate fl x | .array xs => xs
    if xs.length ≠ fl then .error .valueError
    else setListField c f t ((splitBy (lens c.rows) xs).map some) keep

def fillFieldLists (c : LCol α) (f t : String) (v : List α) (keep : Bool) : R (LCol α) :=
  if v.length ≠ c.rows.length then .error .valueError
  else setFlatField c f t (.array (repeatEach v (lens c.rows))) keep

def viewFields (c : LCol α) (fs : List String) : R (LCol α) :=
  if fs.eraseDups.length ≠ fs.length then .error .valueError
  else if ¬ fs.all (fun f => c.ty.any (·.1 == f)) then .error .valueError
  else pure { ty := fs.filterMap fun f => c.ty.find? (·.1 == f)
              rows := c.rows.map fun r => r.map fun t => fs.filterMap fun f => t.find? (·.1 == f) }

def popFields (c : LCol α) (fs : List String) : R (LCol α) :=
  let fs := fs.eraseDups
  if ¬ fs.all (fun f => c.ty.any (·.1 == f)) then .error .valueError
  else if c.ty.length - fs.length = 0 then .error .valueError   -- truncated: `c.ty.length ≤ fs.length`
  else pure { ty := c.ty.filter fun p => ¬ fs.contains p.1
              rows := c.rows.map fun r => r.map fun t => t.filter fun p => ¬ fs.contains p.1 }

end Spec
end NP
