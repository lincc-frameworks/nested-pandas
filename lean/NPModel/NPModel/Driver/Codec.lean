/-
  NPModel.Driver.Codec — JSON encoding of the line protocol (see DESIGN.md §5, "Protocol").
-/
import Lean.Data.Json
import NPModel.Impl.ExtArray
open Lean
namespace NP

def cellOfJson : Json → Except String Cell
  | .null => pure none
  | .bool b => pure (some (.bool b))
  | .num n => if n.exponent = 0 then pure (some (.int n.mantissa)) else throw s!"non-integer number {n}"
  | .str "nan" => pure (some .nan)
  | j@(.obj _) =>
    match j.getObjVal? "f", j.getObjVal? "s", j.getObjVal? "t" with
    | .ok (.num n), _, _ => pure (some (.flt n.mantissa))
    | _, .ok (.str s), _ => pure (some (.str s))
    | _, _, .ok (.num n) => pure (some (.ts n.mantissa))
    | _, _, _ => throw s!"bad cell {j}"
  | j => throw s!"bad cell {j}"

def cellToJson : Cell → Json
  | none => .null
  | some (.int i) => .num (JsonNumber.fromInt i)
  | some (.flt t) => Json.mkObj [("f", .num (JsonNumber.fromInt t))]
  | some .nan => .str "nan"
  | some (.str s) => Json.mkObj [("s", .str s)]
  | some (.bool b) => .bool b
  | some (.ts n) => Json.mkObj [("t", .num (JsonNumber.fromInt n))]

def arrOf (j : Json) : Except String (Array Json) :=
  match j with | .arr a => pure a | _ => throw s!"expected array, got {j.compress.take 80}"

def listOf {β} (f : Json → Except String β) (j : Json) : Except String (List β) := do
  (← arrOf j).toList.mapM f

def natOf (j : Json) : Except String Nat :=
  match j with
  | .num n => if n.exponent = 0 ∧ n.mantissa ≥ 0 then pure n.mantissa.toNat else throw s!"bad nat {j}"
  | _ => throw s!"bad nat {j}"

def intOf (j : Json) : Except String Int :=
  match j with
  | .num n => if n.exponent = 0 then pure n.mantissa else throw s!"bad int {j}"
  | _ => throw s!"bad int {j}"

def boolOf (j : Json) : Except String Bool :=
  match j with | .bool b => pure b | _ => throw s!"bad bool {j}"

def strOf (j : Json) : Except String String :=
  match j with | .str s => pure s | _ => throw s!"bad string {j}"

def optOf {β} (f : Json → Except String β) (j : Json) : Except String (Option β) :=
  match j with | .null => pure none | j => some <$> f j

def fld (j : Json) (k : String) : Except String Json := j.getObjVal? k

def fldD (j : Json) (k : String) (d : Json) : Json := (j.getObjVal? k).toOption.getD d

def plistOfJson (j : Json) : Except String (PList Cell) := do
  pure { offs := ← listOf natOf (← fld j "offs"), valid := ← listOf boolOf (← fld j "valid"),
         vals := ← listOf cellOfJson (← fld j "vals") }

def tyOfJson (j : Json) : Except String (List (String × String)) :=
  listOf (fun p => do let a ← arrOf p; pure (← strOf a[0]!, ← strOf a[1]!)) j

def pstructOfJson (ty : List (String × String)) (j : Json) : Except String (PStruct Cell) := do
  let kids ← listOf plistOfJson (← fld j "kids")
  let ty' ← (match j.getObjVal? "ty" with | .ok t => tyOfJson t | _ => pure ty)
  pure { valid := ← listOf boolOf (← fld j "valid"),
         kids := List.zipWith (fun (p : String × String) l => { name := p.1, ty := p.2, list := l }) ty' kids }

def pcolOfJson (j : Json) : Except String (PCol Cell) := do
  let ty ← tyOfJson (← fld j "ty")
  pure { ty := ty, chunks := ← listOf (pstructOfJson ty) (← fld j "chunks") }

def plsOfJson (ty : List (String × String)) (j : Json) : Except String (PLS Cell) := do
  let vs ← listOf (listOf cellOfJson) (← fld j "fields")
  pure { offs := ← listOf natOf (← fld j "offs"), valid := ← listOf boolOf (← fld j "valid"),
         fields := List.zipWith (fun (p : String × String) v => (p.1, p.2, v)) ty vs }

/-- Python-level row: null or an ordered list of `[name, [cells]]`. -/
def rowOfJson (j : Json) : Except String (Row Cell) :=
  optOf (listOf fun p => do let a ← arrOf p; pure (← strOf a[0]!, ← listOf cellOfJson a[1]!)) j

def jList {β} (f : β → Json) (l : List β) : Json := .arr (l.map f).toArray
def jNat (n : Nat) : Json := .num (JsonNumber.fromNat n)
def jInt (n : Int) : Json := .num (JsonNumber.fromInt n)
def jOpt {β} (f : β → Json) : Option β → Json | none => .null | some x => f x

def rowToJson (r : Row Cell) : Json :=
  jOpt (jList fun (p : String × List Cell) => .arr #[.str p.1, jList cellToJson p.2]) r

def tyToJson (ty : List (String × String)) : Json :=
  jList (fun (p : String × String) => .arr #[.str p.1, .str p.2]) ty

def scalarToJson (s : PScalar Cell) : Json := jOpt (jList (jOpt (jList cellToJson))) s

/-- Logical rendering of a column result. -/
def pcolToJson (c : PCol Cell) : Json :=
  Json.mkObj [("ty", tyToJson c.ty), ("rows", jList rowToJson c.rows),
              ("nchunks", jNat c.chunks.length)]

def keyOfJson (j : Json) : Except String Key := do
  match (← strOf (← fld j "k")) with
  | "int" => pure (.int (← intOf (← fld j "i")))
  | "slice" => pure (.slice (← optOf intOf (fldD j "a" .null)) (← optOf intOf (fldD j "b" .null))
                            (← optOf intOf (fldD j "s" .null)))
  | "mask" => pure (.mask (← listOf boolOf (← fld j "m")))
  | "ints" => pure (.ints (← listOf intOf (← fld j "is")))
  | k => throw s!"bad key kind {k}"

end NP
