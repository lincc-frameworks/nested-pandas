/-
  NPModel.State.Kinds — closure model for C18: the class of a result and the kind of each of its
  columns under the operations named in the property.  Each rule is pandas/NestedFrame runtime
  behaviour (constructor propagation via `_constructor`, dtype preservation of extension arrays);
  the rules are ASSUMPTIONS validated by the correspondence on every step of every chain; what is
  proved is that the rules compose: closure under chains of any depth.  No rule of `FKind.step`
  yields `.degraded`, so `Closed` is kept by construction.
-/
import NPModel.Basic
namespace NP.State

inductive ColKind where
  | base
  | nested (fields : List String)
  | degraded                         -- a formerly nested column that became object / struct / list
  deriving Repr, DecidableEq

structure FKind where
  isNestedFrame : Bool
  cols : List (String × ColKind)
  deriving Repr, DecidableEq

def FKind.nestedColumns (F : FKind) : List String :=
  F.cols.filterMap fun (n, k) => match k with | .nested _ => some n | _ => none

def FKind.fieldsOf (F : FKind) (n : String) : Option (List String) :=
  match F.cols.find? (·.1 == n) with
  | some (_, .nested fs) => some fs
  | _ => none

/-- the result is a NestedFrame and no nested column has degraded -/
def FKind.Closed (F : FKind) : Prop := F.isNestedFrame = true ∧ ∀ c ∈ F.cols, c.2 ≠ .degraded

inductive KOp where
  | rowOp                                  -- query / sort / dropna / row selection / head / tail / reindex / concat of equal dtypes / copy / pickle / parquet / reset_index(drop) : same columns, same kinds
  | addField (nest field : String)         -- eval assignment / field assignment on an existing nest
  | dropField (nest field : String)
  | addNested (name : String) (fields : List String)   -- add_nested / new nest by assignment / join with a nested table
  | addBase (name : String)                -- join/merge with a base table, reset_index(), assign
  | selectCols (names : List String)       -- column selection
  deriving Repr

def upsertField (fs : List String) (f : String) : List String := if fs.contains f then fs else fs ++ [f]

def FKind.step (F : FKind) : KOp → FKind
  | .rowOp => F
  | .addField n f => { F with cols := F.cols.map fun (c, k) => match k with
      | .nested fs => if c == n then (c, .nested (upsertField fs f)) else (c, k)
      | _ => (c, k) }
  | .dropField n f => { F with cols := F.cols.map fun (c, k) => match k with
      | .nested fs => if c == n then (c, .nested (fs.filter (· != f))) else (c, k)
      | _ => (c, k) }
  | .addNested name fs => { F with cols := (F.cols.filter (·.1 != name)) ++ [(name, .nested fs)] }
  | .addBase name => { F with cols := (F.cols.filter (·.1 != name)) ++ [(name, .base)] }
  | .selectCols names => { F with cols := F.cols.filter fun c => names.contains c.1 }

def FKind.run (F : FKind) : List KOp → FKind
  | [] => F
  | op :: ops => (F.step op).run ops

end NP.State
