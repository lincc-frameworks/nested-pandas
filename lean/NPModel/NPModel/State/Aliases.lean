/-
  NPModel.State.Aliases — the only piece of hidden state a NestedFrame carries between calls:
  the `_aliases` attribute (core.py `_metadata = ["_aliases"]`), set by `eval` for the duration
  of an evaluation, read by `_parse_hierarchical_components` and by the field resolvers, copied
  to derived frames by pandas' `__finalize__`.

  The model is parametric in the data `D`, the results `R` and the semantics of each operation
  `sem : D → Option T → Option (R × D)` (`none` = the call raises; the `Option T` argument is the
  alias table the operation sees).  What is modelled exactly is the PROTOCOL around it
  (core.py `NestedFrame.eval`, 489-539; the resolvers of expr.py read the attribute):

      eval:   self._aliases = table;  try: answer = body()  finally: self._aliases = None
              if answer is a frame: answer._aliases = None
      others: read _aliases, never write it; in-place variants replace the data only on success
  `query` (a preflight that reads `_aliases` and may raise, then `eval`, then the selection) has no
  kind of its own.
-/
import NPModel.Basic
namespace NP.State

variable {D R T : Type}

structure Frame (D T : Type) where
  data    : D
  aliases : Option T
  deriving DecidableEq

/-- how an operation is wrapped -/
inductive Kind where
  | eval      -- sets the table, runs, clears it (try/finally)
  | plain     -- any other public operation: reads the attribute only
  deriving DecidableEq, Repr

structure Op (D R T : Type) where
  kind  : Kind
  table : T                                   -- the alias table `eval` derives from its expression
  sem   : D → Option T → Option (R × D)        -- outcome given the data and the table it sees
  inplace : Bool                              -- whether a successful call replaces the receiver's data

/-- one public call on a frame: the outcome (`none` = raised) and the frame afterwards -/
def call (f : Frame D T) (op : Op D R T) : Option R × Frame D T :=
  match op.kind with
  | .eval =>
    -- the body sees the table of THIS expression; whatever happens the attribute is cleared
    match op.sem f.data (some op.table) with
    | some (r, d') => (some r, { data := if op.inplace then d' else f.data, aliases := none })
    | none => (none, { data := f.data, aliases := none })
  | .plain =>
    match op.sem f.data f.aliases with
    | some (r, d') => (some r, { f with data := if op.inplace then d' else f.data })
    | none => (none, f)

/-- the frame after a history of calls (outcomes discarded) -/
def after (f : Frame D T) : List (Op D R T) → Frame D T
  | [] => f
  | op :: rest => after (call f op).2 rest

/-- an operation is read-only-or-failing on `f` if it raises or is not in place -/
def Harmless (f : Frame D T) (op : Op D R T) : Prop :=
  (call f op).1 = none ∨ op.inplace = false

end NP.State
