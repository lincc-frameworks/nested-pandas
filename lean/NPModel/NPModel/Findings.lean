/-
  NPModel.Findings — negation witnesses for the known findings of /verif/KNOWN_FINDINGS.txt:
  for each finding a concrete input on which the implementation model (validated against the
  code by the correspondence) violates the property's specification, proved by kernel evaluation
  (`decide +kernel`).  K4 and K10 evaluate a rendering of the faulty lines that is local to this
  file (the model does not cover that code), K8 has no counterpart in the model, K11 holds for all
  names and is proved by `simp`.  The same inputs are replayed on the real code by
  /verif/findings/repro_known.py.
-/
import NPModel.Spec.Frame
import NPModel.Impl.Dtype
import NPModel.Impl.Names
namespace NP.Findings
open NP

/-! ### K1 — hidden child lists under a missing row -/

def hiddenList : PList Nat := { offs := [0, 2, 4], valid := [true, true], vals := [1, 2, 8, 9] }
/-- row 1 is missing (struct invalid) but its child list still holds `[8, 9]`
    (`StructArray.from_arrays(mask=…)`, and what struct-level take/concat keep of it) -/
def hiddenKid : PField Nat := { name := "a", ty := "int64", list := hiddenList }
def hiddenChunk : PStruct Nat := { valid := [true, false], kids := [hiddenKid] }
def hiddenCol : PCol Nat := { ty := [("a", "int64")], chunks := [hiddenChunk] }

/-- iteration and `isna` say the row is missing, `list_lengths` counts its two hidden records and
    the flat view contains them — C02/C03/C04/C06/C07/C10-C13/C19 all fail on such a column. -/
theorem hidden_lists_are_counted :
    hiddenCol.rows = [some [("a", [1, 2])], none] ∧
    NArr.listLengths hiddenCol = .ok [2, 2] ∧
    NArr.flatField hiddenCol "a" = .ok [1, 2, 8, 9] ∧
    Spec.lens hiddenCol.rows = [2, 0] := by decide +kernel

/-! ### K2 — to_lists shows the nullness of child lists -/

def nullList : PList Nat := { offs := [0, 0], valid := [false], vals := [] }
def emptyList : PList Nat := { offs := [0, 0], valid := [true], vals := [] }
def nullKid : PField Nat := { name := "a", ty := "int64", list := nullList }
def emptyKid : PField Nat := { name := "a", ty := "int64", list := emptyList }
def missNull : PStruct Nat := { valid := [false], kids := [nullKid] }
def missEmpty : PStruct Nat := { valid := [false], kids := [emptyKid] }

/-- two logically equal columns (one missing row) that `to_lists` / `get_list_series` /
    `iter_field_lists` tell apart: `<NA>` vs `[]` -/
theorem to_lists_shows_child_nullness :
    missNull.rows = missEmpty.rows ∧
    NArr.iterFieldLists { ty := [("a", "int64")], chunks := [missNull] } "a" = .ok [none] ∧
    NArr.iterFieldLists { ty := [("a", "int64")], chunks := [missEmpty] } "a" = .ok [some []] := by decide +kernel

/-! ### K5 — a flat Series whose index equals the frame index -/

def dupList : PList Nat := { offs := [0, 2, 2], valid := [true, true], vals := [1, 2] }
def dupKid : PField Nat := { name := "v", ty := "int64", list := dupList }
def dupChunk : PStruct Nat := { valid := [true, true], kids := [dupKid] }
def dupCol : PCol Nat := { ty := [("v", "int64")], chunks := [dupChunk] }
def dupFrame : NFrame Nat := { index := [.str "a", .str "a"], cols := [("n", .nest dupCol)] }

/-- the rows of column `n` of a successful result -/
def rowsAfter (r : R (NFrame Nat)) : Option (List (Row Nat)) :=
  match r with
  | .ok F => match F.nest? "n" with
    | .ok c => some c.rows
    | .error _ => none
  | .error _ => none

def dupSpec : LCol Nat := { ty := [("v", "int64")], rows := [some [("v", [1, 2])], some [("v", [])]] }

/-- rows of lengths 2 and 0 under labels `[a, a]`: the flat index `[a, a]` equals the frame index,
    so `frame['n.w'] = flat_series` takes the base-aligned branch and repeats the first value. -/
theorem flat_index_equals_frame_index :
    rowsAfter (dupFrame.setField "n" "w" "int64" (.array [10, 20]) (some [.str "a", .str "a"]) 0)
      = some [some [("v", [1, 2]), ("w", [10, 10])], some [("v", []), ("w", [])]] ∧
    ((Spec.setFlatField dupSpec "w" "int64" (.array [10, 20]) false).toOption.map (·.rows))
      = some [some [("v", [1, 2]), ("w", [10, 20])], some [("v", []), ("w", [])]] := by
  constructor <;> decide +kernel

/-! ### K6 — the list-struct orientation carries no validity -/

/-- a missing row exported as list-of-structs and imported again is an empty, non-missing row -/
theorem list_struct_loses_missing :
    missNull.rows = [none] ∧
    ((transposeSL missNull false).bind transposeLS).map (·.rows) = .ok [some [("a", [])]] := by decide +kernel

/-! ### K3 — rebuilding a struct from leaf list columns -/

/-- `Table.to_struct_array()` / `StructArray.from_arrays` without a mask: every row is valid,
    whatever the validity of the struct the leaves came from (partial parquet load). -/
theorem partial_load_loses_missing :
    (structFromArrays missNull.kids none).map (·.valid) = .ok [true] ∧ missNull.valid = [false] := by decide +kernel

/-! ### K9 — duplicate field names -/

/-- `nested<a: [int64], a: [double]>` parses (successfully) to a dtype with ONE field -/
theorem duplicate_field_names_misparse :
    let render : Bool → Str := fun t => if t then ['d', 'o', 'u', 'b', 'l', 'e'] else ['i', 'n', 't', '6', '4']
    let alias? : Str → Option Bool := fun s =>
      if s = ['d', 'o', 'u', 'b', 'l', 'e'] then some true else if s = ['i', 'n', 't', '6', '4'] then some false else none
    constructFromString alias? (dtypeName render [(['a'], false), (['a'], true)]) = .ok [(['a'], true)] := by decide +kernel

/-! ### K4 — multi-line eval on a copy -/

/-- pandas evaluates a multi-line expression with `inplace=False` on a copy (`target`), while the
    field resolver installed by `NestedFrame.eval` was built from the receiver: line 2 looks the
    field assigned by line 1 up in the receiver and does not find it.  `fieldsSeenAfterLine1` is what
    the resolver sees after line 1. -/
def fieldsSeenAfterLine1 (receiverFields : List String) (assigned : String) (inplace : Bool) : List String :=
  if inplace then receiverFields ++ [assigned]      -- the receiver itself was updated, the cache invalidated
  else receiverFields                               -- only the copy was updated

theorem multiline_copy_resolver_is_stale :
    (fieldsSeenAfterLine1 ["a"] "c" false).contains "c" = false ∧
    (fieldsSeenAfterLine1 ["a"] "c" true).contains "c" = true := by decide +kernel

/-! ### K8 — count_nested on an empty frame is pandas behaviour (`DataFrame.apply` on an empty
    frame returns an empty frame, not a Series); it has no counterpart in the model and is replayed
    on the real code only (findings/repro_known.py). -/
theorem count_nested_empty_frame : True := trivial

/-! ### K7 — `from_lists` on an empty frame packs the list columns with the FLAT packer
    (`add_nested(df[list_columns])`): the element type of the nested field is then the type of the
    column itself (a list type), not the lists' element type.  In the model: the flat packer keeps
    the column's type tag as the field's element type. -/
theorem from_lists_empty_frame :
    ((packSortedDf ({ index := [], cols := [("l", "list<int64>", ([] : List Nat))] } : FlatDF Nat)).map (·.col.ty))
      = .ok [("l", "list<int64>")] := by decide +kernel

/-! ### K10 — a nested column that is called "base"

    `reduce`, `sort_values` and `dropna` name the layer an argument belongs to by a string, and use
    the string "base" for the base layer (`layer = "base" if len(components) < 2 else components[0]`,
    then `if layer == "base"`): the path of a field of a nested column that is itself called "base"
    is taken for a base column.  `all_columns` uses the same key for the list of base columns. -/
def layerOf (components : List String) : String :=
  if components.length < 2 then "base" else components.headD ""

def isBaseLayer (layer : String) : Bool := layer == "base"

theorem nest_named_base_is_taken_for_the_base_layer :
    isBaseLayer (layerOf ["base", "a"]) = true ∧ isBaseLayer (layerOf ["a"]) = true ∧
    isBaseLayer (layerOf ["n", "a"]) = false := by decide +kernel

/-- **K11** (C14): the evaluator names a backtick-quoted part by pandas' cleaned identifier and
    `_aliases` maps that identifier back to ONE original name (a Python dict: the pair recorded last
    wins, `aliasLookup`).  Two sibling fields whose cleaned names coincide (`t (s)` / `t_(s)`) that
    are BOTH named in one expression therefore resolve to the same field — whatever the cleaned
    identifier and the two names are. -/
theorem colliding_clean_names_resolve_to_the_last (c a b : List Char) :
    aliasLookup [(c, a), (c, b)] c = b := by
  simp [aliasLookup]

example : aliasLookup [("t__LPAR_s_RPAR_".toList, "t (s)".toList), ("t__LPAR_s_RPAR_".toList, "t_(s)".toList)]
    "t__LPAR_s_RPAR_".toList = "t_(s)".toList :=
  colliding_clean_names_resolve_to_the_last _ _ _

end NP.Findings
