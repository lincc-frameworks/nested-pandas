/-
  NPModel.Pandas.Expr — the mini expression language of the query/eval grammar the property
  list quantifies over, with its evaluation on ONE record (elementwise semantics).
  ASSUMPTION about pandas' engine (validated case by case by the correspondence check):
  `DataFrame.eval` on Arrow-typed columns is elementwise — the value at flat position `j`
  depends only on the values of record `j`, with Kleene logic for nulls, IEEE semantics for NaN.
-/
import NPModel.Basic
namespace NP

inductive CmpOp where | lt | le | eq | ne | ge | gt deriving Repr, DecidableEq
inductive ArOp where | add | sub | mul deriving Repr, DecidableEq

inductive Expr where
  | field (layer : Option String) (name : String)    -- `none` = base column
  | const (v : Val)
  | cmp (o : CmpOp) (l r : Expr)
  | ar (o : ArOp) (l r : Expr)
  | and (l r : Expr)
  | or (l r : Expr)
  | not (e : Expr)
  deriving Repr

/-- layers an expression refers to (the keys of `_subexprs_by_nest`; the base layer, "" there, is `none` here) -/
def Expr.layers : Expr → List (Option String)
  | .field l _ => [l]
  | .const _ => []
  | .cmp _ l r | .ar _ l r | .and l r | .or l r => (l.layers ++ r.layers).eraseDups
  | .not e => e.layers

/-- numeric view: (isFloat, twice the value) -/
def Val.num? : Val → Option (Bool × Int)
  | .int i => some (false, 2 * i)
  | .flt t => some (true, t)
  | _ => none

def cmpOrd (o : CmpOp) (c : Ordering) : Bool :=
  match o, c with
  | .lt, .lt => true | .le, .lt => true | .le, .eq => true | .eq, .eq => true
  | .ne, .lt => true | .ne, .gt => true | .ge, .gt => true | .ge, .eq => true | .gt, .gt => true
  | _, _ => false

/-- comparison of two non-null values; `none` = the pair is not comparable (not generated) -/
def Val.cmp (o : CmpOp) (a b : Val) : Option Bool :=
  match a, b with
  | .nan, _ | _, .nan => if a.num?.isSome ∨ b.num?.isSome ∨ (a == .nan ∧ b == .nan) then some (o == .ne) else none
  | .str x, .str y => some (cmpOrd o (compare x y))
  | .bool x, .bool y => some (cmpOrd o (compare x.toNat y.toNat))
  | .ts x, .ts y => some (cmpOrd o (compare x y))
  | a, b => match a.num?, b.num? with
    | some (_, x), some (_, y) => some (cmpOrd o (compare x y))
    | _, _ => none

/-! ### the order `sort_values` uses on cells -/

def cellIsNull : Cell → Bool := Option.isNone

/-- order on non-null values used by sort_values: NaN above every number -/
def Val.lt (a b : Val) : Bool :=
  match a, b with
  | .nan, _ => false
  | x, .nan => x != .nan
  | a, b => (Val.cmp .lt a b).getD false

def cellLt (a b : Cell) : Bool := match a, b with | some x, some y => Val.lt x y | _, _ => false

def Val.arith (o : ArOp) (a b : Val) : Option Val :=
  match a, b with
  | .nan, x | x, .nan => if x.num?.isSome ∨ x == .nan then some .nan else none
  | .int x, .int y => some (.int (match o with | .add => x + y | .sub => x - y | .mul => x * y))
  | a, b => match a.num?, b.num? with
    | some (_, x), some (_, y) =>
      match o with
      | .add => some (.flt (x + y))
      | .sub => some (.flt (x - y))
      | .mul => if (x * y) % 2 = 0 then some (.flt (x * y / 2)) else none   -- off the exact grid: not generated
    | _, _ => none

inductive EvalErr where | undefined | badType deriving Repr, DecidableEq

/-- evaluate on one record; `lookup layer name` gives the record's cell or `none` if undefined -/
def Expr.eval (lookup : Option String → String → Option Cell) : Expr → Except EvalErr Cell
  | .field l n => match lookup l n with
    | some c => .ok c
    | none => .error .undefined
  | .const v => .ok (some v)
  | .cmp o l r => do
    let a ← l.eval lookup; let b ← r.eval lookup
    -- pandas rewrites `term == "str"` / `term != "str"` into `isin` / `not isin` (pandas'
    -- `BaseExprVisitor._rewrite_membership_op` in pandas/core/computation/expr.py, not /repo): two-valued, a null is simply not a member
    let isStrConst : Expr → Bool := fun e => match e with | .const (.str _) => true | _ => false
    let isTerm : Expr → Bool := fun e => match e with | .field _ _ => true | .const _ => true | _ => false
    if (o == .eq ∨ o == .ne) ∧ (isStrConst l ∨ isStrConst r) ∧ isTerm l ∧ isTerm r then
      match a, b with
      | some x, some y => pure (some (.bool ((x == y) == (o == .eq))))
      | _, _ => pure (some (.bool (o == .ne)))
    else
    match a, b with
    | some x, some y => match Val.cmp o x y with
      | some r => pure (some (.bool r))
      | none => throw .badType
    | _, _ => pure none
  | .ar o l r => do
    let a ← l.eval lookup; let b ← r.eval lookup
    match a, b with
    | some x, some y => match Val.arith o x y with
      | some r => pure (some r)
      | none => throw .badType
    | _, _ => pure none
  | .and l r => do
    let a ← l.eval lookup; let b ← r.eval lookup
    match a, b with     -- Kleene
    | some (.bool false), _ | _, some (.bool false) => pure (some (.bool false))
    | some (.bool true), some (.bool true) => pure (some (.bool true))
    | none, some (.bool true) | some (.bool true), none | none, none => pure none
    | _, _ => throw .badType
  | .or l r => do
    let a ← l.eval lookup; let b ← r.eval lookup
    match a, b with
    | some (.bool true), _ | _, some (.bool true) => pure (some (.bool true))
    | some (.bool false), some (.bool false) => pure (some (.bool false))
    | none, some (.bool false) | some (.bool false), none | none, none => pure none
    | _, _ => throw .badType
  | .not e => do
    match (← e.eval lookup) with
    | some (.bool b) => pure (some (.bool (!b)))
    | none => pure none
    | _ => throw .badType

/-- static result type of an expression given the field types -/
def Expr.ty (tyOf : Option String → String → String) : Expr → String
  | .field l n => tyOf l n
  | .const (.int _) => "int64" | .const (.flt _) => "double" | .const .nan => "double"
  | .const (.str _) => "string" | .const (.bool _) => "bool" | .const (.ts _) => "timestamp[ns]"
  | .cmp _ _ _ | .and _ _ | .or _ _ | .not _ => "bool"
  | .ar _ l r => if l.ty tyOf == "double" ∨ r.ty tyOf == "double" then "double" else "int64"

end NP
