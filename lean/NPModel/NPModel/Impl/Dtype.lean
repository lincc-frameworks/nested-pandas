/-
  NPModel.Impl.Dtype — implementation model of series/dtype.py: the string name of a nested
  dtype and its parser, over lists of characters with Python's `str.split` semantics.
  `τ` is the catalogue of element types; `render : τ → Str` stands for `str(pa_type)` and
  `alias? : Str → Option τ` for `pa.type_for_alias` (parameters, see DESIGN.md §8).
-/
import NPModel.Basic
namespace NP

abbrev Str := List Char

/-- Python `s.split(sep)` for the two-character separator `a b`: cut at every occurrence,
    scanning left to right (`cur` = the current part, reversed). -/
def split2 (a b : Char) : Str → Str → List Str
  | [], cur => [cur.reverse]
  | [c], cur => [(c :: cur).reverse]
  | c :: d :: rest, cur =>
    if c = a ∧ d = b then cur.reverse :: split2 a b rest []
    else split2 a b (d :: rest) (c :: cur)

/-- Python `s.split(sep, maxsplit=1)`: `none` when the separator does not occur. -/
def splitOnce2 (a b : Char) : Str → Str → Option (Str × Str)
  | [], _ => none
  | [_], _ => none
  | c :: d :: rest, cur =>
    if c = a ∧ d = b then some (cur.reverse, rest)
    else splitOnce2 a b (d :: rest) (c :: cur)

def stripPrefix? : Str → Str → Option Str
  | [], s => some s
  | _ :: _, [] => none
  | p :: ps, c :: cs => if p = c then stripPrefix? ps cs else none

/-- `s.removesuffix(suf)` when `s.endswith(suf)` -/
def stripSuffix? (suf s : Str) : Option Str := (stripPrefix? suf.reverse s.reverse).map List.reverse

def intercalateStr (sep : Str) : List Str → Str
  | [] => []
  | [x] => x
  | x :: y :: rest => x ++ sep ++ intercalateStr sep (y :: rest)

variable {τ : Type}

def sNested : Str := ['n', 'e', 's', 't', 'e', 'd', '<']

/-- `NestedDtype.name` (dtype.py:44-48) -/
def fieldString (render : τ → Str) (f : Str × τ) : Str := f.1 ++ [':', ' ', '['] ++ render f.2 ++ [']']

def dtypeName (render : τ → Str) (d : List (Str × τ)) : Str :=
  sNested ++ intercalateStr [',', ' '] (d.map (fieldString render)) ++ ['>']

/-- `fields[name] = type` on an insertion-ordered dict -/
def dictSet (d : List (Str × τ)) (n : Str) (t : τ) : List (Str × τ) :=
  if d.any (·.1 == n) then d.map fun p => if p.1 == n then (n, t) else p else d ++ [(n, t)]

inductive ParseErr where | typeError deriving Repr, DecidableEq

/-- one `name: [type]` piece (dtype.py:89-113) -/
def parseField (alias? : Str → Option τ) (fs : Str) : Except ParseErr (Str × τ) :=
  match splitOnce2 ':' ' ' fs [] with
  | none => .error .typeError
  | some (name, ty) =>
    match stripPrefix? ['['] ty with
    | none => .error .typeError
    | some inner =>
      match stripSuffix? [']'] inner with
      | none => .error .typeError
      | some valueType =>
        match alias? valueType with
        | some t => .ok (name, t)
        | none => .error .typeError

/-- `NestedDtype.construct_from_string` (dtype.py:58-115) -/
def constructFromString (alias? : Str → Option τ) (s : Str) : Except ParseErr (List (Str × τ)) :=
  match stripPrefix? sNested s with
  | none => .error .typeError
  | some rest =>
    match stripSuffix? ['>'] rest with
    | none => .error .typeError
    | some body =>
      (split2 ',' ' ' body []).foldlM (fun acc fs => do
        let (n, t) ← parseField alias? fs
        pure (dictSet acc n t)) []

end NP
