/-
  NPModel.Impl.Names — implementation model of the column-path handling of nestedframe/core.py
  and nestedframe/expr.py: `_identify_aliases`, `_parse_hierarchical_components`,
  `_is_known_hierarchical_column`, `_is_known_column`, the precedence of `__getitem__` and the
  dispatch of `__setitem__`.
  `clean : Str → Str` stands for pandas' `clean_column_name` (a parameter; the harness passes the
  real values for the names of each case and checks the laws the theorems assume).
-/
import NPModel.Impl.Dtype
namespace NP

/-- Python `s.split(".")` (single-character separator) -/
def split1 (sep : Char) : Str → Str → List Str
  | [], cur => [cur.reverse]
  | c :: cs, cur => if c = sep then cur.reverse :: split1 sep cs [] else split1 sep cs (c :: cur)

def joinDot : List Str → Str
  | [] => []
  | [x] => x
  | x :: y :: rest => x ++ ['.'] ++ joinDot (y :: rest)

/-- after an opening backtick: the name up to the closing one and the text behind it (`acc` = the
    name so far, reversed); `none` for an empty pair of backticks or a quote that never closes -/
def takeQuoted : Str → Str → Option (Str × Str)
  | [], _ => none
  | c :: cs, acc => if c = '`' then (if acc = [] then none else some (acc.reverse, cs)) else takeQuoted cs (c :: acc)

theorem takeQuoted_shorter : ∀ (s acc name rest : Str), takeQuoted s acc = some (name, rest) → rest.length < s.length := by
  intro s
  induction s with
  | nil => intro acc name rest h; cases h
  | cons c cs ih =>
    intro acc name rest h
    rw [takeQuoted] at h
    split at h
    · split at h
      · cases h
      · cases h; exact Nat.lt_succ_self _
    · exact Nat.lt_succ_of_lt (ih _ _ _ h)

/-- `_identify_aliases` (expr.py:224-240), the regex `` `[^`]+` `` applied with `re.sub`: every
    leftmost non-overlapping match is replaced by `clean(name)`; an alias `clean(name) ↦ name` is
    recorded when they differ. -/
def identifyAliases (clean : Str → Str) : Str → Str × List (Str × Str)
  | [] => ([], [])
  | c :: cs =>
    if c = '`' then
      match h : takeQuoted cs [] with
      | some (name, rest) =>
        have : rest.length < (c :: cs).length := by
          have := takeQuoted_shorter cs [] name rest h
          simp; omega
        let (out, al) := identifyAliases clean rest
        let cl := clean name
        (cl ++ out, if cl = name then al else (cl, name) :: al)
      | none =>
        -- an empty pair of backticks or an unclosed quote: the backtick stays
        let (out, al) := identifyAliases clean cs
        (c :: out, al)
    else
      let (out, al) := identifyAliases clean cs
      (c :: out, al)
termination_by s => s.length

/-- later matches overwrite earlier ones in the Python dict; lookup takes the LAST recorded pair -/
def aliasLookup (al : List (Str × Str)) (x : Str) : Str :=
  match (al.reverse.find? (·.1 == x)) with
  | some p => p.2
  | none => x

/-- `_parse_hierarchical_components` (core.py:137-145); `attr` = the frame's `_aliases` attribute -/
def parseComponents (clean : Str → Str) (attr : Option (List (Str × Str))) (path : Str) : List Str :=
  match attr with
  | some al => (split1 '.' path []).map (aliasLookup al)
  | none =>
    let (p, al) := identifyAliases clean path
    (split1 '.' p []).map (aliasLookup al)

structure Schema where
  base   : List Str                      -- names of all columns (base and nested), as `self.columns`
  nested : List (Str × List Str)         -- nested columns with their fields
  deriving Repr

def Schema.nestedNames (S : Schema) : List Str := S.nested.map (·.1)

/-- `_is_known_hierarchical_column` -/
def isKnownHierarchical (S : Schema) (comps : List Str) : Bool :=
  match comps with
  | b :: f :: rest =>
    match S.nested.find? (·.1 == b) with
    | some (_, fields) => fields.contains (joinDot (f :: rest))
    | none => false
  | _ => false

/-- `_is_known_column` -/
def isKnownColumn (S : Schema) (comps : List Str) : Bool :=
  S.base.contains (joinDot comps) || isKnownHierarchical S comps

inductive Resolved where
  | column (name : Str)                  -- a whole column of the frame
  | field (nest field : Str)
  | newField (nest field : Str)          -- setitem: a new field of an existing nest
  | newNest (nest field : Str)           -- setitem: a new nested column
  | keyError
  | valueError
  deriving Repr, DecidableEq

/-- `NestedFrame.__getitem__` on a string (core.py:167-192) -/
def getitemResolve (clean : Str → Str) (attr : Option (List (Str × Str))) (S : Schema) (item : Str) : Resolved :=
  if S.base.contains item then .column item
  else
    let comps := parseComponents clean attr item
    let cleaned := joinDot comps
    if S.base.contains cleaned then .column cleaned
    else if isKnownHierarchical S comps then
      match comps with
      | n :: rest => .field n (joinDot rest)
      | [] => .keyError
    else .keyError

/-- `NestedFrame.__setitem__` dispatch (core.py:194-227) -/
def setitemResolve (clean : Str → Str) (attr : Option (List (Str × Str))) (S : Schema) (key : Str) : Resolved :=
  let comps := parseComponents clean attr key
  if isKnownHierarchical S comps ∨ (comps.length > 1 ∧ S.nestedNames.contains (comps.headD [])) then
    match comps with
    | [n, f] => if isKnownHierarchical S comps then .field n f else .newField n f
    | _ => .valueError
  else
    match comps with
    | [n, f] => .newNest n f
    | [_] => .column key
    | _ => .valueError

end NP
