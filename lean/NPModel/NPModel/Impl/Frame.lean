/-
  NPModel.Impl.Frame — implementation model of nestedframe/core.py (NestedFrame):
  query, eval, dropna, sort_values, add_nested, from_flat, from_lists, reduce, dotted item access.
  Built on the physical layer: every nested column is a `PCol`, flat views come from
  `NSeries.toFlat`, re-packing goes through `packSortedDf` and `NArr.take`.
-/
import NPModel.Impl.Accessor
import NPModel.Pandas.Expr
namespace NP

inductive ColData (α : Type) where
  | base (ty : String) (vals : List α)
  | nest (c : PCol α)
  deriving Repr

/-- A NestedFrame: index labels and ordered columns (base and nested interleaved). -/
structure NFrame (α : Type) where
  index : List Label
  cols  : List (String × ColData α)
  deriving Repr

variable {α : Type}

def NFrame.col? (F : NFrame α) (n : String) : Option (ColData α) := (F.cols.find? (·.1 == n)).map (·.2)

def NFrame.nest? (F : NFrame α) (n : String) : R (PCol α) :=
  match F.col? n with
  | some (.nest c) => pure c
  | _ => .error .keyError

def NFrame.nestedColumns (F : NFrame α) : List String :=
  F.cols.filterMap fun (n, d) => match d with | .nest _ => some n | _ => none

def NFrame.setCol (F : NFrame α) (n : String) (d : ColData α) : NFrame α :=
  if F.cols.any (·.1 == n) then { F with cols := F.cols.map fun p => if p.1 == n then (n, d) else p }
  else { F with cols := F.cols ++ [(n, d)] }

/-- pandas' `Index.get_indexer` of the RangeIndex `0..n-1` in the packed index: position of the
    ordinal among the packed labels, `-1` when absent -/
def ordinalIndexer (index : List Label) (n : Nat) : List Int :=
  (List.range n).map fun (i : Nat) =>
    match index.findIdx? (· == Label.int (i : Int)) with
    | some p => (p : Int)
    | none => -1

/-- `_set_filtered_flat_df` (core.py:673-685): the filtered/sorted flat table, indexed by row ordinals,
    is packed (`pack_sorted_df_into_struct`) and assigned to the frame with a RangeIndex;
    pandas aligns the packed series to `0..n-1` with `take(indexer, allow_fill=True)`:
    rows whose ordinal is absent become missing.  The original index is then restored. -/
def NFrame.setFilteredFlatDf (F : NFrame α) (nest : String) (flat : FlatDF α) : R (NFrame α) := do
  let packed ← packSortedDf flat
  let n := F.index.length
  let col ← (if packed.index == (List.range n).map (fun (i : Nat) => Label.int (i : Int)) then pure packed.col
             else NArr.take packed.col (ordinalIndexer packed.index n) true none)
  pure (F.setCol nest (.nest col))

def FlatDF.filterRows (d : FlatDF α) (keep : List Bool) : FlatDF α :=
  { index := filterBy keep d.index, cols := d.cols.map fun (n, t, v) => (n, t, filterBy keep v) }

def FlatDF.len (d : FlatDF α) : Nat := d.index.length

/-- the flat view of a nest with the ordinal (`get_list_index`) index -/
def NFrame.ordinalFlat (F : NFrame α) (nest : String) : R (FlatDF α) := do
  let c ← F.nest? nest
  let flat ← (NSeries.toFlat { index := F.index, col := c } none)
  let li ← NArr.getListIndex c
  if li.length ≠ flat.len then throw .valueError
  pure { flat with index := li.map fun (i : Nat) => Label.int (i : Int) }

/-! ### query / eval (Cell-valued) -/

def recordLookup (flat : FlatDF Cell) (nest : String) (j : Nat) : Option String → String → Option Cell
  | some l, n => if l == nest then (flat.cols.find? (·.1 == n)).map fun (_, _, v) => (v.getD j none) else none
  | none, _ => none

def baseLookup (F : NFrame Cell) (i : Nat) : Option String → String → Option Cell
  | none, n => match F.col? n with
    | some (.base _ v) => some (v.getD i none)
    | _ => none
  | some _, _ => none

def evalErrToPy : EvalErr → PyErr
  | .undefined => .attributeError
  | .badType => .typeError

/-- the expression on record `j` -/
def evalAt (look : Nat → Option String → String → Option Cell) (e : Expr) (j : Nat) : R Cell :=
  match e.eval (look j) with
  | .ok c => pure c
  | .error err => .error (evalErrToPy err)

def evalAll (n : Nat) (look : Nat → Option String → String → Option Cell) (e : Expr) : R (List Cell) :=
  (List.range n).mapM (evalAt look e)

def NFrame.filterRows (F : NFrame Cell) (keep : List Bool) : R (NFrame Cell) := do
  let cols ← F.cols.mapM fun (n, d) => match d with
    | .base t v => pure (n, ColData.base t (filterBy keep v))
    | .nest c => do
      let r ← NArr.getItem c (.mask keep)
      match r with
      | .col c' => pure (n, ColData.nest c')
      | .row _ => throw .other
  pure { index := filterBy keep F.index, cols := cols }

/-- `NestedFrame.query` (core.py:574-671). -/
def NFrame.query (F : NFrame Cell) (e : Expr) : R (NFrame Cell) := do
  -- preflight: at most one layer
  let layers := e.layers
  if layers.length > 1 then throw .valueError
  match layers with
  | [some nest] =>
    if ¬ F.nestedColumns.contains nest then throw .attributeError
    let flat ← F.ordinalFlat nest
    let vals ← evalAll flat.len (recordLookup flat nest) e
    let keep := vals.map fun c => c == some (.bool true)
    F.setFilteredFlatDf nest (flat.filterRows keep)
  | _ =>
    let vals ← evalAll F.index.length (baseLookup F) e
    F.filterRows (vals.map fun c => c == some (.bool true))

/-- `NestedFrame.eval` of a pure expression over one nest: a flat series with the flat index. -/
def NFrame.evalExpr (F : NFrame Cell) (e : Expr) : R (List Label × String × List Cell) := do
  match e.layers with
  | [some nest] =>
    let c ← F.nest? nest
    let flat ← (NSeries.toFlat { index := F.index, col := c } none)
    let vals ← evalAll flat.len (recordLookup flat nest) e
    let ty := e.ty fun _ n => tyOf c n
    pure (flat.index, ty, vals)
  | _ => throw .notImplemented

/-! ### dropna / sort_values on a nested layer (data movement is polymorphic) -/

inductive How where | any | all deriving Repr, DecidableEq

/-- pandas `DataFrame.dropna` row predicate on the flat table restricted to `subset` -/
def keepRecord (isNull : α → Bool) (how : How) (thresh : Option Nat) (cells : List α) : Bool :=
  let nn := (cells.filter fun c => !isNull c).length
  match thresh with
  | some t => nn ≥ t
  | none => match how with
    | .any => nn = cells.length
    | .all => nn > 0 ∨ cells.length = 0

/-- the flat column a `subset` entry names -/
def dropnaCol (flat : FlatDF α) (f : String) : R (String × String × List α) :=
  match flat.cols.find? (·.1 == f) with
  | some c => pure c
  | none => .error .keyError

/-- the inspected columns: all of them, or the `subset` -/
def dropnaCols (flat : FlatDF α) (subset : Option (List String)) : R (List (String × String × List α)) :=
  match subset with
  | none => pure flat.cols
  | some fs => fs.mapM (dropnaCol flat)

/-- the cells of record `j` in the inspected columns -/
def recordCells (cols : List (String × String × List α)) (j : Nat) : List α := cols.filterMap fun c => c.2.2[j]?

/-- which records stay -/
def dropnaKeep (isNull : α → Bool) (how : How) (thresh : Option Nat) (cols : List (String × String × List α)) (n : Nat) :
    List Bool :=
  (List.range n).map fun j => keepRecord isNull how thresh (recordCells cols j)

/-- `NestedFrame.dropna` aimed at a nested layer (core.py:737-871). -/
def NFrame.dropnaNested (isNull : α → Bool) (F : NFrame α) (nest : String) (how : How) (thresh : Option Nat)
    (subset : Option (List String)) : R (NFrame α) := do
  let flat ← F.ordinalFlat nest
  let cols ← dropnaCols flat subset
  F.setFilteredFlatDf nest (flat.filterRows (dropnaKeep isNull how thresh cols flat.len))

/-- lexicographic comparison used by `sort_values(by=[ordinal] ++ keys)`: `lt a b` per key with
    its direction; nulls placed by `naFirst` independently of the direction -/
def keyLe (lt : α → α → Bool) (isNull : α → Bool) (asc naFirst : Bool) (a b : α) : Ordering :=
  match isNull a, isNull b with
  | true, true => .eq
  | true, false => if naFirst then .lt else .gt
  | false, true => if naFirst then .gt else .lt
  | false, false =>
    if lt a b then (if asc then .lt else .gt)
    else if lt b a then (if asc then .gt else .lt) else .eq

def lexLe (lt : α → α → Bool) (isNull : α → Bool) (naFirst : Bool) :
    List (Bool × α × α) → Bool
  | [] => true
  | (asc, a, b) :: rest =>
    match keyLe lt isNull asc naFirst a b with
    | .lt => true
    | .gt => false
    | .eq => lexLe lt isNull naFirst rest

/-- the flat column of one sort key with its direction -/
def sortKeyCol (flat : FlatDF α) (k : String × Bool) : R (Bool × List α) :=
  match flat.cols.find? (·.1 == k.1) with
  | some c => pure (k.2, c.2.2)
  | none => .error .keyError

/-- the key comparisons of records `i` and `j`, most significant first -/
def sortKeysAt [Inhabited α] (kcols : List (Bool × List α)) (i j : Nat) : List (Bool × α × α) :=
  kcols.map fun k => (k.1, k.2.getD i default, k.2.getD j default)

/-- `sort_values(by=[ordinal] ++ keys)`: the row ordinal first, then the keys -/
def sortLe [Inhabited α] (lt : α → α → Bool) (isNull : α → Bool) (naFirst : Bool) (ords : List Label)
    (kcols : List (Bool × List α)) (i j : Nat) : Bool :=
  if ords.getD i (.int 0) == ords.getD j (.int 0) then lexLe lt isNull naFirst (sortKeysAt kcols i j)
  else (ords.getD i (.int 0)).le (ords.getD j (.int 0))

/-- `NestedFrame.sort_values` by nested fields (core.py:873-1002): stable lexicographic sort of
    the flat table by (ordinal, keys…), then re-packing. -/
def NFrame.sortNested [Inhabited α] (lt : α → α → Bool) (isNull : α → Bool) (F : NFrame α) (nest : String)
    (keys : List (String × Bool)) (naFirst : Bool) : R (NFrame α) := do
  let flat ← F.ordinalFlat nest
  let kcols ← keys.mapM (sortKeyCol flat)
  let perm := (List.range flat.len).mergeSort (sortLe lt isNull naFirst flat.index kcols)
  F.setFilteredFlatDf nest (flat.reorder perm default)

end NP

namespace NP
variable {α : Type}

/-! ### add_nested / from_flat / from_lists -/

inductive JoinHow where | left | right | inner | outer deriving Repr, DecidableEq

/-- a base column read at optional positions (`na` where there is none) -/
def takeBase (v : List α) (idx : List (Option Nat)) (dflt : α) : List α :=
  idx.map fun o => match o with | some i => v.getD i dflt | none => dflt

/-- optional positions as a pandas indexer (`-1` = no row) -/
def optIndexer (idx : List (Option Nat)) : List Int :=
  idx.map fun o => match o with | some i => (i : Int) | none => -1

def takeColData (idx : List (Option Nat)) (dflt : α) (p : String × ColData α) : R (String × ColData α) :=
  match p.2 with
  | .base t v => pure (p.1, ColData.base t (takeBase v idx dflt))
  | .nest c => do
    let c' ← NArr.take c (optIndexer idx) true none
    pure (p.1, ColData.nest c')

def NFrame.takeRows (F : NFrame α) (idx : List (Option Nat)) (dflt : α) (newIndex : List Label) : R (NFrame α) := do
  let cols ← F.cols.mapM (takeColData idx dflt)
  pure { index := newIndex, cols := cols }

def dedupLabels : List Label → List Label
  | [] => []
  | l :: ls => l :: (dedupLabels ls).filter (· != l)

/-- where label `l` sits in the packed index (`Index.get_indexer`), `-1` when it has no row -/
def labelPos (keys : List Label) (l : Label) : Int :=
  match keys.findIdx? (· == l) with
  | some p => (p : Int)
  | none => -1

/-- left rows carrying label `l`, ascending -/
def leftRowsOf (left : List Label) (l : Label) : List Nat :=
  (List.range left.length).filter fun i => left.getD i (.int 0) == l

/-- one output row of a join per left row with the label, or one row without a left side -/
def joinRowsOf (left keys : List Label) (l : Label) : List (Option Nat × Int × Label) :=
  match leftRowsOf left l with
  | [] => [(none, labelPos keys l, l)]
  | is => is.map fun i => (some i, labelPos keys l, l)

/-- the row plan of `DataFrame.join(how)` on the index: (left row or none, position in the packed
    index or -1, label) for every output row -/
def joinPlan (how : JoinHow) (left keys : List Label) : List (Option Nat × Int × Label) :=
  match how with
  | .left => (List.range left.length).map fun i => (some i, labelPos keys (left.getD i (.int 0)), left.getD i (.int 0))
  | .inner => ((List.range left.length).filter fun i => labelPos keys (left.getD i (.int 0)) ≥ 0).map fun i =>
      (some i, labelPos keys (left.getD i (.int 0)), left.getD i (.int 0))
  | .right => keys.flatMap (joinRowsOf left keys)
  | .outer => ((dedupLabels (left ++ keys)).mergeSort Label.le).flatMap (joinRowsOf left keys)

/-- `add_nested` (core.py:229-299) joining on the index: `pack` then `DataFrame.join(how)`.
    `na` is the cell pandas writes into base columns of rows that exist only on the right. -/
def NFrame.addNested [Inhabited α] (F : NFrame α) (flat : FlatDF α) (name : String) (how : JoinHow) (na : α) :
    R (NFrame α) := do
  let packed ← packFlat flat
  let plan := joinPlan how F.index packed.index
  let F' ← F.takeRows (plan.map (·.1)) na (plan.map (·.2.2))
  let col ← NArr.take packed.col (plan.map (·.2.1)) true none
  pure (F'.setCol name (.nest col))

/-- `from_flat` (core.py:336-397) without `on`: base rows are the first occurrence of every
    label, nested = all records of the label. -/
def NFrame.fromFlat [Inhabited α] (index : List Label) (base : List (String × String × List α))
    (nested : List (String × String × List α)) (name : String) (na : α) : R (NFrame α) := do
  let keep := (duplicatedFirst index).map (!·)
  let F : NFrame α := { index := filterBy keep index
                        cols := base.map fun (n, t, v) => (n, ColData.base t (filterBy keep v)) }
  F.addNested { index := index, cols := nested } name .left na

/-- `from_lists` (core.py:400-487; `nest_lists`, core.py:301-333, calls it): pack the list
    columns row by row and attach the packed column by position, one output row per input row. -/
def NFrame.fromLists (index : List Label) (base : List (String × String × List α))
    (lists : List (String × String × List (PList α))) (name : String) : R (NFrame α) := do
  let packed ← packLists index lists true
  pure { index := index
         cols := (base.map fun (n, t, v) => (n, ColData.base t v)) ++ [(name, .nest packed.col)] }

/-! ### reduce: the call log -/

inductive RArg (α : Type) where
  | scalar (x : α)
  | array (xs : Option (List α))     -- `none`: the null list pyarrow shows for a missing row
  deriving Repr

/-- the iterator `reduce` builds for one requested column -/
def NFrame.reduceIter (F : NFrame α) (col : Option String × String) : R (List (RArg α)) :=
  match col.1 with
  | none => match F.col? col.2 with
    | some (.base _ v) => pure (v.map RArg.scalar)
    | some (.nest _) => .error .other   -- a whole nested column: per-row DataFrames (not modelled)
    | none => .error .keyError
  | some l => do
    let c ← F.nest? l
    let ls ← NArr.iterFieldLists c col.2
    pure (ls.map RArg.array)

/-- `reduce` (core.py:1004-1141): the arguments handed to the user function, row by row.
    `cols` = the requested columns `(layer?, name)` after path resolution. -/
def NFrame.reduceCalls (F : NFrame α) (cols : List (Option String × String)) (dflt : α) : R (List (List (RArg α))) := do
  if cols.isEmpty then throw .valueError
  let iters ← cols.mapM F.reduceIter
  let n := (iters.map List.length).foldl min F.index.length
  pure ((List.range n).map fun i => iters.map fun it => it.getD i (.scalar dflt))

/-- `NestedFrame.__getitem__('nest.field')`: the flat series of the field. -/
def NFrame.getField (F : NFrame α) (nest field : String) : R (List Label × List α) := do
  let c ← F.nest? nest
  NSeries.getFlatSeries { index := F.index, col := c } field

/-- `NestedFrame.__setitem__('nest.field', value)` (core.py:194-227).
    `valueIndex`: the index of `value` when it is a Series. -/
def NFrame.setField [Inhabited α] (F : NFrame α) (nest field ty : String) (v : FlatVal α)
    (valueIndex : Option (List Label)) (na : α) : R (NFrame α) := do
  if F.nestedColumns.contains nest then
    let c ← F.nest? nest
    let s : NSeries α := { index := F.index, col := c }
    let s' ← (match v, valueIndex with
      | .array xs, some vi =>
        if vi == F.index then s.withFilledField field ty xs      -- "base-aligned" branch
        else s.withFlatField field ty v
      | _, _ => s.withFlatField field ty v)
    pure (F.setCol nest (.nest s'.col))
  else
    -- a new nested column from a flat series: `add_nested(value.to_frame(field), name=nest)`
    match v, valueIndex with
    | .array xs, some vi => F.addNested { index := vi, cols := [(field, ty, xs)] } nest .left na
    | _, _ => throw .valueError

/-- `eval("nest.new = expr")` (expr.py `visit_Assign` + core.py `__setitem__`). -/
def NFrame.evalAssign (F : NFrame Cell) (nest field : String) (e : Expr) : R (NFrame Cell) := do
  let (idx, ty, vals) ← F.evalExpr e
  F.setField nest field ty (.array vals) (some idx) none

end NP

namespace NP

/-! ### `_resolve_dropna_target` (core.py:687-735), on parsed path components -/

inductive Target where
  | base
  | nest (n : String)
  deriving Repr, DecidableEq

/-- layer named by one subset entry: a path with fewer than two components is a base column -/
def subsetLayer (nestedCols : List String) (comps : List String) : R Target :=
  match comps with
  | layer :: _ :: _ => if nestedCols.contains layer then pure (.nest layer) else .error .valueError
  | _ => pure .base

def resolveDropnaTarget (nestedCols : List String) (onNested : Option String)
    (subset : Option (List (List String))) : R Target := do
  let subsetTarget ← (match subset with
    | none => pure none
    | some [] => pure none
    | some cs => do
      let ts ← cs.mapM (subsetLayer nestedCols)
      -- `np.unique(subset_target)` must have a single element
      match ts with
      | [] => pure none
      | t :: rest => if rest.all (· == t) then pure (some t) else .error .valueError : R (Option Target))
  match onNested with
  | some n => if ¬ nestedCols.contains n then throw .valueError
  | none => pure ()
  match onNested, subsetTarget with
  | some n, some t => if t == .nest n then pure t else .error .valueError
  | some n, none => pure (.nest n)
  | none, some t => pure t
  | none, none => pure .base

end NP
