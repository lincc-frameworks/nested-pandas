/-
  NPModel.Impl.IO — implementation model of nestedframe/io.py `read_parquet` at the level of
  column bookkeeping (which columns come back, in which order, regrouped into which nested
  columns with which fields), and of `to_parquet` / the file as a parameter.

  ASSUMED about pyarrow (validated by the correspondence on real files):
  * `pq.read_table(columns=cols)` returns one column per requested entry, in the requested order;
    an entry `n.f` naming a field of a struct-of-lists column comes back as a list column named `f`;
  * the parquet codec returns what was written (schema, rows, order), whatever the row-group size,
    compression and encoding.
-/
import NPModel.Basic
namespace NP.IO

inductive FileCol where
  | base
  | nest (fields : List String)        -- a struct of lists
  deriving Repr, DecidableEq

inductive RetKind where
  | base                               -- not a list, not a struct
  | list                               -- a list column (a leaf of a nest, or a plain list column)
  | struct (fields : List String)
  deriving Repr, DecidableEq

/-- a requested entry, after splitting on the dot: a whole column, or one field of a nest.
    (`col_in.split(".")[0]` is the nest; pyarrow names the returned leaf column by the field.) -/
inductive Req where
  | whole (name : String)
  | leaf (nest field : String)
  deriving Repr, DecidableEq

/-- the text of the request as the user wrote it -/
def Req.text : Req → String
  | .whole n => n
  | .leaf n f => n ++ "." ++ f

/-- pyarrow's projection: the returned (name, kind) for one requested entry; `none` = not in the file -/
def project1 (schema : List (String × FileCol)) : Req → Option (String × RetKind)
  | .whole n =>
    match schema.find? (·.1 == n) with
    | some (_, .base) => some (n, .base)
    | some (_, .nest fs) => some (n, .struct fs)
    | none => none
  | .leaf n f =>
    match schema.find? (·.1 == n) with
    | some (_, .nest fs) => if fs.contains f then some (f, .list) else none
    | _ => none

inductive OutCol where
  | base (name : String)
  | nested (name : String) (fields : List String)
  | plain (name : String)              -- a list/struct column left as a plain Arrow column
  deriving Repr, DecidableEq

def OutCol.name : OutCol → String
  | .base n | .nested n _ | .plain n => n

/-- insertion-ordered dict of lists: `structures[k].append(i)` -/
def dictAppend (d : List (String × List Nat)) (k : String) (i : Nat) : List (String × List Nat) :=
  if d.any (·.1 == k) then d.map fun p => if p.1 == k then (k, p.2 ++ [i]) else p else d ++ [(k, [i])]

/-- the loop over `zip(columns, table.column_names)` (io.py:98-118): a requested entry whose text
    differs from the returned column name was a partial load of `nest` -/
def scanGo : List (Req × (String × RetKind)) → Nat → List (String × List Nat) → List String →
    List (String × List Nat) × List String
  | [], _, st, rj => (st, rj)
  | (.whole _, _) :: rest, i, st, rj => scanGo rest (i + 1) st rj
  | (.leaf nest _, (_, kind)) :: rest, i, st, rj =>
    if kind != .list then scanGo rest (i + 1) (st.filter (·.1 != nest)) (rj ++ [nest])
    else if ¬ rj.contains nest then scanGo rest (i + 1) (dictAppend st nest i) rj
    else scanGo rest (i + 1) st rj

def scanPartial (cols : List Req) (ret : List (String × RetKind)) (reject : List String) :
    List (String × List Nat) × List String :=
  scanGo (cols.zip ret) 0 [] reject

def finish (table : List (String × RetKind)) (rj : List String) : List OutCol :=
  table.map fun (n, k) => match k with
    | .base => .base n
    | .list => .plain n
    | .struct fs => if rj.contains n then .plain n else .nested n fs

def fullTable (schema : List (String × FileCol)) : List (String × RetKind) :=
  schema.map fun (n, c) => match c with
    | .base => (n, RetKind.base) | .nest fs => (n, RetKind.struct fs)

/-- `read_parquet` (io.py:13-157), column bookkeeping only -/
def readParquetCols (schema : List (String × FileCol)) (columns : Option (List Req)) (reject : List String) :
    R (List OutCol) :=
  match columns with
  | none => pure (finish (fullTable schema) reject)
  | some cols =>
    match cols.mapM (project1 schema) with
    | none => .error .other                  -- pyarrow refuses unknown columns
    | some ret =>
      let (structures, rj) := scanPartial cols ret reject
      -- "both a full and partial load of the column": a requested text equal to a regrouped nest
      if cols.any (fun c => structures.any (·.1 == c.text)) then .error .valueError
      else
        let removed := structures.flatMap (·.2)
        let kept := (ret.zipIdx.filter fun p => ¬ removed.contains p.2).map (·.1)
        let rebuilt : List (String × RetKind) := structures.map fun (n, idx) =>
          (n, RetKind.struct (idx.filterMap fun i => (ret[i]?).map (·.1)))
        pure (finish (kept ++ rebuilt) rj)

end NP.IO
