/-
  NPModel.Impl.ExtArray — implementation model of
  /repo/src/nested_pandas/series/ext_array.py and series/utils.py (NestedExtensionArray).

  One definition per Python function, same control flow, on the physical layer of
  NPModel.Arrow. Mutating methods return the new storage. Errors are explicit.
  The model follows the code at the HEAD of /repo, which includes the `fix:` commits listed in
  /verif/KNOWN_FINDINGS.txt.
-/
import NPModel.Spec.Col
namespace NP
variable {α : Type}

/-! ### series/utils.py -/

/-- `_rebased_offsets` (utils.py): offsets relative to the first one. -/
def rebased (offs : List Nat) : List Nat := offs.map (· - offs.headD 0)

/-- `validate_struct_list_array_for_equal_lengths` (utils.py:49-79): every field's re-based
    offsets equal those of the first field. -/
def PStruct.validate (s : PStruct α) : R Unit :=
  match s.kids with
  | [] => .ok ()
  | k :: ks =>
    if ks.all (fun k' => rebased k'.list.offs == rebased k.list.offs) then .ok ()
    else .error .valueError

/-- `NestedExtensionArray._validate` (ext_array.py): chunk by chunk. -/
def PCol.validate (c : PCol α) : R Unit :=
  c.chunks.forM PStruct.validate

/-- One `pa.ListArray` of structs (the transposed orientation). `fields` are the flat children. -/
structure PLS (α : Type) where
  offs   : List Nat
  valid  : List Bool
  fields : List (String × String × List α)
  deriving Repr, DecidableEq

/-- `_windowed_values` (utils.py): the values the list array's own offsets point to. -/
def PList.windowVals (l : PList α) : List α :=
  (l.vals.drop (l.offs.headD 0)).take (l.offs.getLast?.getD 0 - l.offs.headD 0)

/-- `transpose_struct_list_array` (utils.py:122-149). No validity is carried (no `mask=`). -/
def transposeSL (s : PStruct α) (validate : Bool) : R (PLS α) := do
  if validate then s.validate
  match s.kids with
  | [] => .error .indexError
  | k :: ks =>
    let offs := rebased k.list.offs
    let win := (k :: ks).map fun k' => (k'.name, k'.ty, k'.list.windowVals)
    -- StructArray.from_arrays refuses children of different lengths
    if ks.all (fun k' => k'.list.windowVals.length = k.list.windowVals.length) then
      -- ListArray.from_arrays bounds check
      if offs.getLast?.getD 0 ≤ k.list.windowVals.length then
        .ok { offs := offs, valid := List.replicate (offs.length - 1) true, fields := win }
      else .error .arrowInvalid
    else .error .arrowInvalid

/-- `transpose_list_struct_array` (utils.py:189-209): raw offsets, whole child buffers, no mask. -/
def transposeLS (l : PLS α) : R (PStruct α) := do
  let kids ← l.fields.mapM fun (n, t, vals) => do
    let la ← listFromArrays l.offs vals
    pure ({ name := n, ty := t, list := la } : PField α)
  structFromArrays kids none

def PLS.rows (l : PLS α) : List (Option (List (String × List α))) :=
  List.zipWith (fun v (i : Nat) =>
      if v then
        let a := l.offs.getD i 0; let b := l.offs.getD (i+1) 0
        some (l.fields.map fun (n, _, vals) => (n, (vals.drop a).take (b - a)))
      else none)
    l.valid (List.range l.valid.length)

/-! ### ext_array.py : construction -/

/-- the one empty chunk a zero-chunk array is normalised to (`pa.array([], type)`) -/
def emptyChunk (ty : List (String × String)) : PStruct α :=
  { valid := [], kids := ty.map fun p => { name := p.1, ty := p.2, list := { offs := [0], valid := [], vals := [] } } }

/-- `NestedExtensionArray.__init__` on struct input (ext_array.py:669-687): an array without
    chunks gets one empty chunk, so the result has at least one chunk. -/
def NArr.init (c : PCol α) (validate : Bool := true) : R (PCol α) := do
  let c := if c.chunks.isEmpty then { c with chunks := [emptyChunk c.ty] } else c
  if validate then c.validate
  pure c

/-- `__init__` on list-struct input: transposed chunk by chunk, never validated. -/
def NArr.initLS (ty : List (String × String)) (chunks : List (PLS α)) : R (PCol α) := do
  let cs ← chunks.mapM transposeLS
  NArr.init { ty := ty, chunks := cs } (validate := false)

/-- `_list_array` (ext_array.py:690-695). -/
def NArr.listArray (c : PCol α) : R (List (PLS α)) :=
  c.chunks.mapM fun s => transposeSL s false

/-! ### observers -/

def NArr.len (c : PCol α) : Nat := c.len

/-- `isna` (both fast paths and the general path give the same mask). -/
def NArr.isna (c : PCol α) : List Bool := c.chunks.flatMap fun s => s.valid.map (!·)

/-- `list_lengths`: `list_value_length(_list_array)` — differences of the first field's offsets. -/
def NArr.listLengths (c : PCol α) : R (List Nat) := do
  let ls ← NArr.listArray c
  pure (ls.flatMap fun l => diffs l.offs)

def NArr.flatLength (c : PCol α) : R Nat := do pure (sumNat (← NArr.listLengths c))

/-- `list_offsets` (ext_array.py:779-803), with the re-basing of the single-chunk path. -/
def NArr.listOffsets (c : PCol α) : R (List Nat) :=
  match c.chunks with
  | [s] => match s.kids with
    | [] => .error .indexError
    | k :: _ => pure (rebased k.list.offs)
  | _ => do pure (offsetsFrom 0 (← NArr.listLengths c))

/-- `field_names`: names of chunk 0. -/
def NArr.fieldNames (c : PCol α) : R (List String) :=
  match c.chunks with
  | [] => .error .indexError
  | s :: _ => pure (s.kids.map (·.name))

/-- `get_list_index`. -/
def NArr.getListIndex (c : PCol α) : R (List Nat) :=
  if c.len = 0 then pure [] else do
    pure (repeatEach (List.range c.len) (← NArr.listLengths c))

def PStruct.kid? (s : PStruct α) (f : String) : Option (PField α) := s.kids.find? (·.name == f)

/-- `iter_field_lists`: the field's lists chunk by chunk (`none` for a null list),
    struct validity is not consulted. -/
def iterOfChunk (f : String) (s : PStruct α) : R (List (Option (List α))) :=
  match s.kid? f with
  | some k => pure k.list.rows
  | none => .error .keyError

def NArr.iterFieldLists (c : PCol α) (f : String) : R (List (Option (List α))) := do
  let per ← c.chunks.mapM (iterOfChunk f)
  pure per.flatten

/-- `__iter__` / `to_numpy`: every struct scalar converted to a table or the NA value. -/
def NArr.iter (c : PCol α) : List (Row α) := c.rows

/-! ### selection -/

inductive Key where
  | int (i : Int)
  | slice (start stop step : Option Int)
  | mask (m : List Bool)
  | ints (is : List Int)
  deriving Repr, DecidableEq

/-- CPython `slice.indices(n)`: start and stop clamped to the length, a zero step refused. -/
def sliceIndices (n : Nat) (start stop step : Option Int) : R (Int × Int × Int) :=
  let st := step.getD 1
  if st = 0 then .error .valueError else
  let n' : Int := n
  let lower : Int := if st > 0 then 0 else -1
  let upper : Int := if st > 0 then n' else n' - 1
  let clamp (s : Int) : Int := if s < 0 then max (s + n') lower else min s upper
  let a := match start with | none => (if st < 0 then upper else lower) | some s => clamp s
  let b := match stop with | none => (if st < 0 then lower else upper) | some s => clamp s
  .ok (a, b, st)

/-- `range(start, stop, step)`, as positions. -/
def rangeList (a b st : Int) : List Nat :=
  let cnt : Nat :=
    if st > 0 then (if a < b then ((b - a + st - 1) / st).toNat else 0)
    else (if a > b then ((a - b - st - 1) / (-st)).toNat else 0)
  (List.range cnt).map fun (k : Nat) => (a + (k : Int) * st).toNat

/-- Normalise a Python position: negatives count from the end. -/
def normPos (n : Nat) (i : Int) : Option Nat :=
  let j := if i < 0 then i + n else i
  if 0 ≤ j ∧ j < n then some j.toNat else none

def PCol.scalars (c : PCol α) : List (PScalar α) :=
  c.chunks.flatMap fun s => (List.range s.len).map s.scalarAt

/-- `ChunkedArray.take(indices)` — one fresh chunk. -/
def PCol.take (c : PCol α) (idx : List (Option Nat)) : PCol α :=
  { c with chunks := [c.combine.take idx] }

/-- `ChunkedArray.filter(mask)` — chunk by chunk. -/
def PCol.filter (c : PCol α) (mask : List Bool) : PCol α :=
  let rec go : List (PStruct α) → List Bool → List (PStruct α)
    | [], _ => []
    | s :: rest, m => s.filter (m.take s.len) :: go rest (m.drop s.len)
  { c with chunks := go c.chunks mask }

inductive GetRes (α : Type) where
  | row (r : Row α)
  | col (c : PCol α)

/-- `__getitem__` (ext_array.py:239-269). -/
def NArr.getItem (c : PCol α) (k : Key) : R (GetRes α) :=
  let n := c.len
  match k with
  | .mask m =>
    if m.length ≠ n then .error .indexError
    else if m.length = 0 then do pure (.col (← NArr.init { c with chunks := [] } false))
    else do pure (.col (← NArr.init (c.filter m) false))
  | .ints is =>
    if is.length = 0 then do pure (.col (← NArr.init { c with chunks := [] } false))
    else
      let idx := is.map (normPos n)
      if idx.any Option.isNone then .error .indexError
      else do pure (.col (← NArr.init (c.take idx) false))
  | .int i =>
    match normPos n i with
    | none => .error .indexError
    | some j => pure (.row (c.rows.getD j none))
  | .slice a b st => do
    let (a', b', st') ← sliceIndices n a b st
    -- `self._chunked_array[item]`: pyarrow slices (zero copy) when the step is 1 and takes the range
    -- otherwise — an assumption about pyarrow, like the kernels
    if st' = 1 then
      pure (.col (← NArr.init { c with chunks := chunkedSlice c.chunks a'.toNat (b' - a').toNat } false))
    else
      pure (.col (← NArr.init (c.take ((rangeList a' b' st').map some)) false))

/-- `_box_pa_scalar` with the array's own type: a Python row (None / table) becomes a struct
    scalar whose fields are looked up by name; an absent field is a null list. -/
def boxScalar (ty : List (String × String)) (r : Row α) : PScalar α :=
  r.map fun t => ty.map fun (n, _) => (t.find? (·.1 == n)).map (·.2)

/-- the fill step of `take(..., allow_fill=True)`: a missing fill value leaves the nulls that
    `take` with null indices produced; a table is broadcast and selected by `if_else` -/
def fillMasked (ty : List (String × String)) (mask : List Bool) (fv : PScalar α) (res : PStruct α) : PStruct α :=
  match fv with
  | none => res
  | some _ => PStruct.ifElse mask (PStruct.ofScalars ty (List.replicate mask.length fv)) res

/-- `take` (ext_array.py:422-491). -/
def NArr.take (c : PCol α) (indices : List Int) (allowFill : Bool) (fill : Row α) : R (PCol α) := do
  let n := c.len
  if n = 0 ∧ indices.any (· ≥ 0) then throw .indexError
  if indices.any (fun i => i ≥ (n : Int)) then throw .indexError
  if allowFill then
    if ¬ indices.any (· < 0) then
      NArr.init (c.take (indices.map fun i => some i.toNat))
    else
      if indices.any (· < -1) then throw .valueError
      let res := c.combine.take (indices.map fun i => if i < 0 then none else some i.toNat)
      NArr.init { c with chunks := [fillMasked c.ty (indices.map (· < 0)) (boxScalar c.ty fill) res] }
  else
    let idx := indices.map (normPos n)
    if idx.any Option.isNone then throw .indexError
    NArr.init (c.take idx)

/-- `copy`: a shallow copy in the source (pyarrow arrays are immutable); the model's values are
    immutable too, so it is the identity.  Aliasing is the subject of `State/Heap`. -/
def NArr.copy (c : PCol α) : PCol α := c

/-- `_concat_same_type`: chunks of all inputs, in order; the constructor validates. -/
def NArr.concat (ty : List (String × String)) (cs : List (PCol α)) : R (PCol α) :=
  NArr.init { ty := ty, chunks := cs.flatMap (·.chunks) }

/-- `dropna`: `pc.drop_null` on the struct array. -/
def NArr.dropna (c : PCol α) : R (PCol α) :=
  NArr.init { c with chunks := c.chunks.map fun s => s.filter s.valid }

/-- `__getstate__` / `__setstate__`: `combine_chunks`. -/
def NArr.pickle (c : PCol α) : PCol α := { c with chunks := [c.combine] }

/-! ### element assignment -/

inductive SetVal (α : Type) where
  | scalar (r : Row α)
  | array (rs : List (Row α))

def firstIndexOf (xs : List Nat) (x : Nat) : Nat := (xs.findIdx? (· == x)).getD 0

def dedupSorted : List Nat → List Nat
  | a :: b :: rest => if a = b then dedupSorted (b :: rest) else a :: dedupSorted (b :: rest)
  | l => l

/-- `replace_with_mask` (ext_array.py:167-180) on combined storage. -/
def replaceWithMask (arr : PStruct α) (mask : List Bool) (ty : List (String × String))
    (value : List (PScalar α)) : R (PStruct α) := do
  let cum := (offsetsFrom 0 (mask.map fun b => if b then 1 else 0)).drop 1
  -- truncated subtraction: `0 - 1 = 0` is the clamp `if_else(value_index < 0, 0, value_index)`
  let vidx := cum.map fun c => c - 1
  if vidx.any (fun i => i ≥ value.length) then throw .indexError
  let bro := PStruct.ofScalars ty (vidx.map fun i => (value.getD i none))
  pure (PStruct.ifElse mask bro arr)

/-- the mask with exactly the positions `ps` set (`np_mask[key] = True`) -/
def setAt (n : Nat) (ps : List Nat) : List Bool := (List.range n).map fun i => ps.contains i

/-- `np.unique(key)`: sorted, duplicates dropped -/
def sortedUnique (ps : List Nat) : List Nat := dedupSorted (ps.mergeSort (· ≤ ·))

/-- integer positions (int, slice and integer-array keys): the mask and
    `np.unique(key, return_index=True)[1]` — for each distinct position in ascending order, the
    index of its first occurrence in the key -/
def fromPositions (n : Nat) (ps : List Nat) : List Bool × Option (List Nat) :=
  (setAt n ps, some ((sortedUnique ps).map (firstIndexOf ps)))

/-- the target mask of an assignment and, for positional keys, the order in which the values are
    consumed: ext_array.py `__setitem__`, first half -/
def setItemMask (n : Nat) (k : Key) : R (List Bool × Option (List Nat)) :=
  match k with
  | .int i => match normPos n i with
    | none => .error .indexError
    | some j => pure (fromPositions n [j])
  | .slice a b st => do
    let (a', b', st') ← sliceIndices n a b st
    pure (fromPositions n (rangeList a' b' st'))
  | .mask m => if m.length ≠ n then .error .indexError else pure (m, none)
  | .ints is =>
    let idx := is.map (normPos n)
    if idx.any Option.isNone then .error .indexError
    else pure (fromPositions n (idx.filterMap id))

/-- `replace_with_mask` on the combined storage, then the validated replacement of the array's
    data (`_replace_chunked_array(..., validate=True)`): ext_array.py `__setitem__`, last line -/
def setItemFinish (c : PCol α) (mask : List Bool) (vals : List (PScalar α)) : R (PCol α) := do
  let res ← replaceWithMask c.combine mask c.ty vals
  let out : PCol α := { c with chunks := [res] }
  out.validate
  pure out

/-- the values as one boxed array: a scalar is repeated for every target
    (`pa.array([scalar] * pa.compute.sum(pa_mask))`), a sequence is boxed element-wise -/
def setItemVals (ty : List (String × String)) (cnt : Nat) (v : SetVal α) : List (PScalar α) :=
  match v with
  | .scalar r => List.replicate cnt (boxScalar ty r)
  | .array rs => rs.map (boxScalar ty)

/-- `value.take(argsort)` for positional keys -/
def setItemReorder (argsort : Option (List Nat)) (vals : List (PScalar α)) : R (List (PScalar α)) :=
  match argsort with
  | none => pure vals
  | some as =>
    if as.any (· ≥ vals.length) then .error .indexError
    else pure (as.map fun i => vals.getD i none)

/-- `__setitem__` once the key is a mask (+ value order): nothing selected, nothing to assign;
    otherwise box the value, reorder it, replace and validate -/
def setItemApply (c : PCol α) (mask : List Bool) (argsort : Option (List Nat)) (v : SetVal α) : R (PCol α) := do
  if mask.length = 0 then return c
  if ¬ mask.any id then return c
  let vals ← setItemReorder argsort (setItemVals c.ty (mask.filter id).length v)
  setItemFinish c mask vals

/-- `__setitem__` (ext_array.py:271-325). -/
def NArr.setItem (c : PCol α) (k : Key) (v : SetVal α) : R (PCol α) := do
  let (mask, argsort) ← setItemMask c.len k
  if (match k with | .ints is => is.isEmpty | .slice _ _ _ => ¬ mask.any id | _ => false) then return c
  setItemApply c mask argsort v

/-! ### field edits -/

/-- `view_fields` (ext_array.py:856-888). -/
def NArr.viewFields (c : PCol α) (fields : List String) : R (PCol α) := do
  let names ← NArr.fieldNames c
  if fields.eraseDups.length ≠ fields.length then throw .valueError
  if ¬ fields.all names.contains then throw .valueError
  let chunks ← c.chunks.mapM fun s => do
    let kids ← fields.mapM fun f => match s.kid? f with
      | some k => pure k
      | none => throw .keyError
    structFromArrays kids (some s.valid)
  pure { ty := fields.filterMap fun f => (c.ty.find? (·.1 == f)), chunks := chunks }

/-- Replace the field named `f` in place, or append it. -/
def upsertKid (kids : List (PField α)) (k : PField α) : List (PField α) :=
  if kids.any (·.name == k.name) then kids.map fun k' => if k'.name == k.name then k else k'
  else kids ++ [k]

/-- `set_list_field` (ext_array.py:942-1003): `value` is the list array `pa.array(value)` gives. -/
def NArr.setListField (c : PCol α) (f : String) (ty : String) (value : PList α) (keepDtype : Bool) :
    R (PCol α) := do
  let names ← NArr.fieldNames c
  if keepDtype ∧ ¬ names.contains f then throw .valueError
  if value.len ≠ c.len then throw .valueError
  let rec go : List (PStruct α) → Nat → R (List (PStruct α))
    | [], _ => pure []
    | s :: rest, start => do
      let kid : PField α := { name := f, ty := ty, list := value.slice start s.len }
      let s' ← structFromArrays (upsertKid s.kids kid) (some s.valid)
      let rest' ← go rest (start + s.len)
      pure (s' :: rest')
  let chunks ← go c.chunks 0
  let newTy := if c.ty.any (·.1 == f) then c.ty.map fun p => if p.1 == f then (f, ty) else p
               else c.ty ++ [(f, ty)]
  let out : PCol α := { ty := newTy, chunks := chunks }
  out.validate
  pure out

inductive FlatVal (α : Type) where
  | scalar (x : α)
  | array (xs : List α)

/-- `set_flat_field` (ext_array.py:890-940). -/
def NArr.setFlatField (c : PCol α) (f : String) (ty : String) (value : FlatVal α) (keepDtype : Bool) :
    R (PCol α) := do
  let names ← NArr.fieldNames c
  if keepDtype ∧ ¬ names.contains f then throw .valueError
  let fl ← NArr.flatLength c
  let xs := match value with
    | .scalar x => List.replicate fl x
    | .array xs => xs
  if xs.length ≠ fl then throw .valueError
  let la ← listFromArrays (← NArr.listOffsets c) xs
  NArr.setListField c f ty la keepDtype

/-- `fill_field_lists` (ext_array.py:1005-1038). -/
def NArr.fillFieldLists (c : PCol α) (f : String) (ty : String) (value : List α) (keepDtype : Bool) :
    R (PCol α) := do
  if value.length ≠ c.len then throw .valueError
  let ls ← NArr.listLengths c
  NArr.setFlatField c f ty (.array (repeatEach value ls)) keepDtype

/-- `pop_fields` (ext_array.py:1040-1071). -/
def NArr.popFields (c : PCol α) (fields : List String) : R (PCol α) := do
  let names ← NArr.fieldNames c
  let fs := fields.eraseDups
  if ¬ fs.all names.contains then throw .valueError
  -- written as in the source; `fs` has no repeats and lies within `names`, so the truncated
  -- subtraction is 0 exactly when every field is named
  if names.length - fs.length = 0 then throw .valueError
  let chunks ← c.chunks.mapM fun s =>
    structFromArrays (s.kids.filter fun k => ¬ fs.contains k.name) (some s.valid)
  pure { ty := c.ty.filter fun p => ¬ fs.contains p.1, chunks := chunks }

/-- `count_nested(df, nested)` without `by` (utils/utils.py): per row the length of the FIRST field's list in the list
    view (`to_lists()`), 0 where that list is null. -/
def NArr.countRecords (c : PCol α) : R (List Nat) := do
  let names ← NArr.fieldNames c
  match names with
  | [] => throw .indexError
  | f0 :: _ => do
    let ls ← NArr.iterFieldLists c f0
    pure (ls.map fun o => (o.map List.length).getD 0)

end NP
