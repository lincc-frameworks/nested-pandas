/-
  NPModel.Impl.Accessor — implementation model of series/accessor.py (the `.nest` accessor)
  and series/packer.py.
-/
import NPModel.Impl.ExtArray
namespace NP
variable {α : Type}

/-- A pandas Series of nested dtype: index labels, name and the extension array's storage. -/
structure NSeries (α : Type) where
  index : List Label
  col   : PCol α
  deriving Repr

/-- A flat pandas DataFrame: index labels and typed columns. -/
structure FlatDF (α : Type) where
  index : List Label
  cols  : List (String × String × List α)
  deriving Repr

/-- A DataFrame of list-valued Arrow columns (one `Option (List α)` per row and column). -/
structure ListDF (α : Type) where
  index : List Label
  cols  : List (String × String × List (Option (List α)))
  deriving Repr

/-- `get_flat_index` (accessor.py): `np.repeat(index, np.diff(list_offsets))`. -/
def NSeries.getFlatIndex (s : NSeries α) : R (List Label) := do
  pure (repeatEach s.index (diffs (← NArr.listOffsets s.col)))

/-- flat values of one field, chunk by chunk: `struct_array.field(f).flatten()`. -/
def flatOfChunk (f : String) (s : PStruct α) : R (List α) :=
  match s.kid? f with
  | some k => pure k.list.flatten
  | none => .error .keyError

def NArr.flatField (c : PCol α) (f : String) : R (List α) := do
  let per ← c.chunks.mapM (flatOfChunk f)
  pure per.flatten

def tyOf (c : PCol α) (f : String) : String := ((c.ty.find? (·.1 == f)).map (·.2)).getD ""

/-- `to_flat` (accessor.py:94-152). pandas refuses columns whose length differs from the index. -/
def NSeries.toFlat (s : NSeries α) (fields : Option (List String)) : R (FlatDF α) := do
  let fields ← (match fields with | some fs => pure fs | none => NArr.fieldNames s.col)
  if fields.isEmpty then throw .valueError
  let index ← s.getFlatIndex
  let cols ← fields.mapM fun f => do
    let v ← NArr.flatField s.col f
    if v.length ≠ index.length then throw .valueError
    pure (f, tyOf s.col f, v)
  pure { index := index, cols := cols }

/-- `to_lists` (accessor.py:43-92): the child list arrays as they are (struct validity not applied). -/
def NSeries.toLists (s : NSeries α) (fields : Option (List String)) : R (ListDF α) := do
  let fields ← (match fields with | some fs => pure fs | none => NArr.fieldNames s.col)
  if fields.isEmpty then throw .valueError
  let cols ← fields.mapM fun f => do
    pure (f, tyOf s.col f, ← NArr.iterFieldLists s.col f)
  pure { index := s.index, cols := cols }

def NSeries.getFlatSeries (s : NSeries α) (f : String) : R (List Label × List α) := do
  let v ← NArr.flatField s.col f
  let idx ← s.getFlatIndex
  if v.length ≠ idx.length then throw .valueError
  pure (idx, v)

def NSeries.getListSeries (s : NSeries α) (f : String) : R (List Label × List (Option (List α))) := do
  pure (s.index, ← NArr.iterFieldLists s.col f)

def NSeries.withFlatField (s : NSeries α) (f ty : String) (v : FlatVal α) : R (NSeries α) := do
  pure { s with col := ← NArr.setFlatField (NArr.copy s.col) f ty v false }

def NSeries.withListField (s : NSeries α) (f ty : String) (v : PList α) : R (NSeries α) := do
  pure { s with col := ← NArr.setListField (NArr.copy s.col) f ty v false }

def NSeries.withFilledField (s : NSeries α) (f ty : String) (v : List α) : R (NSeries α) := do
  pure { s with col := ← NArr.fillFieldLists (NArr.copy s.col) f ty v false }

def NSeries.withoutField (s : NSeries α) (fs : List String) : R (NSeries α) := do
  pure { s with col := ← NArr.popFields (NArr.copy s.col) fs }

/-- `.nest[[f, …]]`. -/
def NSeries.getFields (s : NSeries α) (fs : List String) : R (NSeries α) := do
  pure { s with col := ← NArr.viewFields s.col fs }

/-- `.nest[key] = value` (accessor.py `__setitem__`): in place, dtype of the field is kept.
    `valueIndex` is the index of `value` when it is a Series. -/
def NSeries.setItem (s : NSeries α) (f ty : String) (v : FlatVal α) (valueIndex : Option (List Label)) :
    R (NSeries α) := do
  match v with
  | .scalar _ => pure { s with col := ← NArr.setFlatField s.col f ty v true }
  | .array xs =>
    if s.index.length = 0 ∧ xs.length = 0 then return s
    match valueIndex with
    | some vi => if (← s.getFlatIndex) ≠ vi then throw .valueError
    | none => pure ()
    pure { s with col := ← NArr.setFlatField s.col f ty v true }

/-! ### series/packer.py -/

/-- `pd.Index.duplicated(keep="first")`, for any label type: an element is a duplicate when an
    equal element occurred before it. -/
def dupFirstGo {β : Type} [BEq β] (seen : List β) : List β → List Bool
  | [] => []
  | l :: ls => seen.contains l :: dupFirstGo (l :: seen) ls

def dupFirstGen {β : Type} [BEq β] (labels : List β) : List Bool := dupFirstGo [] labels

def duplicatedFirst : List Label → List Bool := dupFirstGen

/-- offsets of the runs of a label sequence (`calculate_sorted_index_offsets` without the
    monotonicity check): positions of the first occurrences, then the length. -/
def packOffsets {β : Type} [BEq β] (labels : List β) : List Nat :=
  nonzeroFrom 0 ((dupFirstGen labels).map (!·)) ++ [labels.length]

def isMonotone : List Label → Bool
  | a :: b :: rest => a.le b && isMonotone (b :: rest)
  | _ => true

/-- `calculate_sorted_index_offsets` (packer.py:316-341). -/
def calculateSortedIndexOffsets (index : List Label) : R (List Nat) :=
  if ¬ isMonotone index then .error .valueError
  else pure (packOffsets index)

/-- `pack_sorted_df_into_struct` (packer.py:138-163) = `view_sorted_df_as_list_arrays` +
    `pack_lists(validate=False)`: zero-copy list views over the flat columns. -/
def packSortedDf (df : FlatDF α) : R (NSeries α) := do
  let offs ← calculateSortedIndexOffsets df.index
  let uniq := (offs.dropLast).map fun o => df.index.getD o (.int 0)
  let kids ← df.cols.mapM fun (n, t, vals) => do
    let la ← listFromArrays offs vals
    pure ({ name := n, ty := t, list := la } : PField α)
  let s ← structFromArrays kids none
  let c ← NArr.init { ty := df.cols.map fun (n, t, _) => (n, t), chunks := [s] } false
  pure { index := uniq, col := c }

/-- positions `0..n-1` stably sorted by label (`df.sort_index(kind="stable")`). -/
def stableSortPerm (index : List Label) : List Nat :=
  ((index.zipIdx).mergeSort fun a b => a.1.le b.1).map (·.2)

def FlatDF.reorder (df : FlatDF α) (perm : List Nat) (dflt : α) : FlatDF α :=
  { index := perm.map fun i => df.index.getD i (.int 0)
    cols  := df.cols.map fun (n, t, v) => (n, t, perm.map fun i => v.getD i dflt) }

/-- `pack_flat` (packer.py:63-98) without `on` (the harness applies `set_index` first). -/
def packFlat [Inhabited α] (df : FlatDF α) : R (NSeries α) :=
  packSortedDf (df.reorder (stableSortPerm df.index) default)

/-- `pack_lists` (packer.py:166-233): each column arrives as its chunks. -/
def packLists (index : List Label) (cols : List (String × String × List (PList α))) (validate : Bool) :
    R (NSeries α) := do
  let ty := cols.map fun (n, t, _) => (n, t)
  let lens := cols.map fun (_, _, chs) => chs.map PList.len
  let chunks ← (match lens with
    | [] => .error .valueError
    | l0 :: ls =>
      if ls.all (· == l0) then
        (List.range l0.length).mapM fun i =>
          structFromArrays (cols.map fun (n, t, chs) =>
            ({ name := n, ty := t, list := chs.getD i { offs := [0], valid := [], vals := [] } } : PField α)) none
      else do
        let s ← structFromArrays (cols.map fun (n, t, chs) =>
          ({ name := n, ty := t, list := PList.ofRows (chs.flatMap PList.rows) } : PField α)) none
        pure [s] : R (List (PStruct α)))
  let c ← NArr.init { ty := ty, chunks := chunks } validate
  pure { index := index, col := c }

/-- `pack_seq` (packer.py:101-135) → `from_sequence` → `_box_pa_array`: rows are boxed against
    the dtype (given, or inferred by pyarrow) and the constructor validates. -/
def packSeq (index : List Label) (ty : List (String × String)) (rows : List (Row α)) : R (NSeries α) := do
  let c ← NArr.init { ty := ty, chunks := [PStruct.ofScalars ty (rows.map (boxScalar ty))] }
  pure { index := index, col := c }


/-- what `to_lists` hands to `pack_lists` PHYSICALLY (accessor.py:74-90): for every declared field the
    child list arrays of the chunks as they are (`struct_array.field(j)`: raw windows, struct validity
    not applied), one chunked array per field -/
def fieldChunks (c : PCol α) : List (String × String × List (PList α)) :=
  (List.range c.ty.length).map fun j =>
    ((c.ty.getD j ("", "")).1, (c.ty.getD j ("", "")).2,
      c.chunks.map fun s => (s.kids.getD j ⟨"", "", ⟨[0], [], []⟩⟩).list)

/-- `pack_lists(series.nest.to_lists())` -/
def NSeries.relist (s : NSeries α) : R (NSeries α) := packLists s.index (fieldChunks s.col) true

/-- `pack_seq(list(series), index=series.index, dtype=series.dtype)` -/
def NSeries.repackElements (s : NSeries α) : R (NSeries α) := packSeq s.index s.col.ty (NArr.iter s.col)

end NP
