/-
  NPModel.Arrow.Kernels — executable models of the pyarrow kernels nested-pandas calls.
  These definitions are ASSUMPTIONS about pyarrow 25, not verified code: the correspondence check
  exercises them through the operations on all layouts (a wrong kernel model shows as model ≠ real).

  Two kinds of kernel:
  * window kernels (`slice`, `field`, `.offsets`, `.values`, `from_arrays`) are modelled
    buffer-exactly, because the library's own logic consults raw offsets after them;
  * value kernels (`take`, `filter`, `if_else`, `drop_null`, `combine_chunks`, `pa.array`)
    produce a fresh array; the model builds the canonical fresh layout (`PList.ofRows`).
    Struct-level value kernels act child-wise, so child lists under a null struct row
    ("hidden" lists) survive them — as observed on pyarrow.
-/
import NPModel.Arrow.Phys
namespace NP
variable {α : Type}

/-! ### window kernels -/

/-- `list_array.slice(st, n)` / what `.field()` of a sliced struct shows. -/
def PList.slice (l : PList α) (st n : Nat) : PList α :=
  { offs := (l.offs.drop st).take (n + 1), valid := (l.valid.drop st).take n, vals := l.vals }

def PStruct.slice (s : PStruct α) (st n : Nat) : PStruct α :=
  { valid := (s.valid.drop st).take n
    kids  := s.kids.map fun k => { k with list := k.list.slice st n } }

/-- `ChunkedArray.slice(st, n)`: per-chunk windows (chunks entirely before `st` are dropped). -/
def chunkedSlice : List (PStruct α) → Nat → Nat → List (PStruct α)
  | [], _, _ => []
  | ch :: rest, st, n =>
    if st ≥ ch.len then chunkedSlice rest (st - ch.len) n
    else
      let k := min n (ch.len - st)
      ch.slice st k :: chunkedSlice rest 0 (n - k)

/-- `pa.ListArray.from_arrays(offsets, values)`: no mask, every list valid.
    pyarrow raises ArrowInvalid when the first or last offset is out of bounds. -/
def listFromArrays (offs : List Nat) (vals : List α) : R (PList α) :=
  match offs.getLast? with
  | none => .error .arrowInvalid
  | some last =>
    if last ≤ vals.length ∧ offs.head?.getD 0 ≤ vals.length then
      .ok { offs := offs, valid := List.replicate (offs.length - 1) true, vals := vals }
    else .error .arrowInvalid

/-- `ListArray.flatten()`: concatenation of the extents of the *valid* lists of the window. -/
def PList.flatten (l : PList α) : List α :=
  (l.rows.map fun r => r.getD []).flatten

/-- `pc.list_value_length`. -/
def PList.valueLengths (l : PList α) : List (Option Nat) :=
  l.rows.map fun r => r.map List.length

/-! ### value kernels (fresh canonical output) -/

/-- `take` with optional (masked) indices. pyarrow raises an IndexError on an out-of-range index;
    the model gives `none` there, and the operations of `Impl/` check the bounds before they take. -/
def gather {β : Type} (idx : List (Option Nat)) (xs : List β) : List (Option β) :=
  idx.map fun o => o.bind fun i => xs[i]?

def PList.take (l : PList α) (idx : List (Option Nat)) : PList α :=
  PList.ofRows ((gather idx l.rows).map Option.join)

def PStruct.take (s : PStruct α) (idx : List (Option Nat)) : PStruct α :=
  { valid := (gather idx s.valid).map fun o => o.getD false
    kids  := s.kids.map fun k => { k with list := k.list.take idx } }

def filterBy {β : Type} : List Bool → List β → List β
  | m :: ms, x :: xs => if m then x :: filterBy ms xs else filterBy ms xs
  | _, _ => []

def PStruct.filter (s : PStruct α) (mask : List Bool) : PStruct α :=
  { valid := filterBy mask s.valid
    kids  := s.kids.map fun k => { k with list := PList.ofRows (filterBy mask k.list.rows) } }

/-- Per-row rows of field number `j` of a chunk (`[]` if the chunk has no such field). -/
def PStruct.kidRows (s : PStruct α) (j : Nat) : List (Option (List α)) :=
  match s.kids[j]? with
  | some k => k.list.rows
  | none => []

/-- `combine_chunks()` / `pa.concat_arrays`: one fresh chunk. -/
def PCol.combine (c : PCol α) : PStruct α :=
  { valid := c.chunks.flatMap (·.valid)
    kids  := (List.range c.ty.length).map fun j =>
      { name := (c.ty[j]?.getD ("", "")).1, ty := (c.ty[j]?.getD ("", "")).2
        list := PList.ofRows (c.chunks.flatMap fun ch => ch.kidRows j) } }

/-- `pc.if_else(mask, a, b)` element by element, on lists of equal length. -/
def selectBy {β : Type} : List Bool → List β → List β → List β
  | m :: ms, x :: xs, y :: ys => (if m then x else y) :: selectBy ms xs ys
  | _, _, _ => []

/-- `pc.if_else(mask, a, b)` on struct arrays of equal length: child-wise, fields paired by position. -/
def PStruct.ifElse (mask : List Bool) (a b : PStruct α) : PStruct α :=
  { valid := selectBy mask a.valid b.valid
    kids  := List.zipWith (fun ka kb => { kb with list := PList.ofRows (selectBy mask ka.list.rows kb.list.rows) })
               a.kids b.kids }

/-- `pa.StructArray.from_arrays(arrays, names, mask=…)`: fails on unequal child lengths.
    `validity` is the complement of pyarrow's `mask`; `none` = no mask, every row valid. -/
def structFromArrays (kids : List (PField α)) (validity : Option (List Bool)) : R (PStruct α) :=
  match kids with
  | [] => .error .valueError
  | k :: ks =>
    if ks.all (fun k' => k'.list.len = k.list.len) then
      .ok { valid := validity.getD (List.replicate k.list.len true), kids := k :: ks }
    else .error .arrowInvalid

/-- A boxed struct scalar: `none` = null struct; per field `none` = null list. -/
abbrev PScalar (α : Type) := Option (List (Option (List α)))

/-- Fresh struct array from boxed scalars (`pa.array(list_of_scalars, type=…)`). -/
def PStruct.ofScalars (ty : List (String × String)) (xs : List (PScalar α)) : PStruct α :=
  { valid := xs.map Option.isSome
    kids  := (List.range ty.length).map fun j =>
      { name := (ty[j]?.getD ("", "")).1, ty := (ty[j]?.getD ("", "")).2
        list := PList.ofRows (xs.map fun x => match x with
          | none => none
          | some fs => (fs[j]?).join) } }

/-- The struct scalar at row `i` of a chunk (child-wise; struct validity separate). -/
def PStruct.scalarAt (s : PStruct α) (i : Nat) : PScalar α :=
  if s.valid.getD i false then some (s.kids.map fun k => (k.list.rows.getD i none)) else none

end NP
